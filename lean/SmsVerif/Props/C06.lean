/-
  C06 — splitting a long message never loses, duplicates or alters content.
  Model: `Model/Split.lean` (hand model of longsms.go, tied by correspondence).
-/
import SmsVerif.Lemmas.Split
import SmsVerif.Lemmas.Pack
import SmsVerif.Gen.Tables

namespace SmsVerif.C06
open SmsVerif SmsVerif.Split

/-- the capacities the model is run with are the constants of the code (regenerated) -/
theorem C06_constants : Gen.dc_MaxLongSmsLength = 140 ∧ Gen.dc_MaxGSM7Length = 160 ∧
    Gen.dc_SplitBy134 = 134 ∧ Gen.dc_SplitBy153 = 153 ∧ Gen.dc_UDHILength = 6 := by decide

/-- **C06_split_concat** : for every boundary rule, every unit string, every capacity and reference:
    removing the 6-octet headers and concatenating the parts in order gives back exactly the
    encoded message — nothing dropped, repeated or reordered. -/
theorem C06_split_concat (bnd : Boundary) (d : List Nat) (per ref : Nat) (hper : 0 < per)
    (parts : List (List Nat)) (h : splitUnits bnd d per ref = .ok parts) :
    (parts.map (List.drop 6)).flatten = d := by
  obtain ⟨_, rfl⟩ := splitUnits_ok bnd d per ref id parts h
  rw [withHeaders_strip, List.map_id, slices_flatten d per 0 _ (cuts_partition bnd d per hper), List.drop_zero]

/-- **C06_split_concat_packed** : the packed GSM 7-bit splitter: the parts are the packed images of consecutive septet slices
    that together are exactly the message's septets (each slice is packed on its own, so a receiver
    told the septet count of a part recovers the slice) -/
theorem C06_split_concat_packed (d : List Nat) (per ref : Nat) (hper : 0 < per)
    (parts : List (List Nat)) (h : splitUnits gsmBoundary d per ref Gsm7.packGo = .ok parts) :
    ∃ sl : List (List Nat), sl.flatten = d ∧ (∀ s ∈ sl, 0 < s.length ∧ s.length ≤ per) ∧
      parts.map (List.drop 6) = sl.map Gsm7.packGo := by
  obtain ⟨_, rfl⟩ := splitUnits_ok gsmBoundary d per ref Gsm7.packGo parts h
  have hp := cuts_partition gsmBoundary d per hper
  exact ⟨_, by rw [slices_flatten d per 0 _ hp, List.drop_zero], slices_sizes d per 0 _ hp, withHeaders_strip ..⟩

/-- **C06_packed_parts_readable** : every part of the packed path, header removed, is the
    TS 23.038 packing of its slice of septets, so a receiver that knows the septet count of the part
    reads exactly that slice; the slices concatenate to the message -/
theorem C06_packed_parts_readable (d : List Nat) (hd : ∀ x ∈ d, x < 128) (per ref : Nat) (hper : 0 < per)
    (parts : List (List Nat)) (h : splitUnits gsmBoundary d per ref Gsm7.packGo = .ok parts) :
    ∃ sl : List (List Nat), sl.flatten = d ∧ parts.map (List.drop 6) = sl.map Gsm7.packSpec ∧
      ∀ s ∈ sl, Gsm7.unpackSpec s.length (Gsm7.packSpec s) = s := by
  obtain ⟨sl, hfl, _, hparts⟩ := C06_split_concat_packed d per ref hper parts h
  have hs : ∀ s ∈ sl, ∀ x ∈ s, x < 128 := fun s hs x hx => hd x (by rw [← hfl]; exact List.mem_flatten.2 ⟨s, hs, hx⟩)
  refine ⟨sl, hfl, ?_, fun s hsm => Gsm7.unpackSpec_packSpec s (hs s hsm)⟩
  rw [hparts]
  exact List.map_congr_left (fun s _ => Gsm7.packGo_eq_spec s)

/-- **C06_single_when_fits** : a message that fits one SMS is returned as one part without a header
    (stated of the unpacked path, `enc = id`; it holds of any `enc` by the same proof) -/
theorem C06_single_when_fits (bnd : Boundary) (d : List Nat) (maxLen per ref : Nat) (h : d.length ≤ maxLen) :
    splitMessage bnd d maxLen per ref = .ok [d] := by
  simp [splitMessage, h]

/-- **C06_split_when_long** : a message that does not fit is split (never returned whole) -/
theorem C06_split_when_long (bnd : Boundary) (d : List Nat) (maxLen per ref : Nat) (h : maxLen < d.length) :
    splitMessage bnd d maxLen per ref = splitUnits bnd d per ref := by
  have : ¬ d.length ≤ maxLen := by omega
  simp [splitMessage, this]

example : splitMessage gsmBoundary [1, 2, 0x1B, 0x3C, 5] 4 3 9
    = .ok [[5, 0, 3, 9, 2, 1, 1, 2], [5, 0, 3, 9, 2, 2, 0x1B, 0x3C, 5]] := by rfl

end SmsVerif.C06

section
open SmsVerif.C06
#print axioms C06_constants
#print axioms C06_split_concat
#print axioms C06_split_concat_packed
#print axioms C06_packed_parts_readable
#print axioms C06_single_when_fits
#print axioms C06_split_when_long
end
