/-
  C12 — results own their memory: no aliasing of input buffers or pooled buffers.

  Over the heap model of `Model/Own.lean`, in which the caller overwrites each input buffer right
  after the call.  The theorem's hypothesis, that every primitive hands out fresh storage, is what
  `Own.facts` records (compared with the implementation on every run); the converse examples show
  that a single aliasing primitive breaks the statement, i.e. the hypothesis is what carries it.
-/
import SmsVerif.Lemmas.Own
import SmsVerif.Gen.Layouts
import SmsVerif.Gen.Lifecycle

namespace SmsVerif.C12
open SmsVerif SmsVerif.Own SmsVerif.Own.Heap

theorem read_alloc_new (h : Heap) (b : Bytes) : (h.alloc b).1.read (h.alloc b).2 = b := Heap.read_alloc_new h b

/-- the separation invariant of an all-fresh history: every result lives in an allocation of its
    own that exists and is not in the pool (input buffers are allocations no result refers to) -/
structure Inv (w : World) : Prop where
  valid : ∀ r ∈ w.results, r.loc < w.heap.mem.length
  freeValid : ∀ l ∈ w.free, l < w.heap.mem.length
  sep : ∀ r ∈ w.results, r.loc ∉ w.free
  distinct : w.results.Pairwise (fun a b => a.loc ≠ b.loc)

theorem inv_init : Inv {} := ⟨by simp, by simp, by simp, by simp⟩

theorem Inv.heap {w : World} (hi : Inv w) {h' : Heap} (hs : w.heap.mem.length ≤ h'.mem.length) :
    Inv { w with heap := h' } :=
  ⟨fun r hr => Nat.lt_of_lt_of_le (hi.valid r hr) hs, fun l hl => Nat.lt_of_lt_of_le (hi.freeValid l hl) hs,
    hi.sep, hi.distinct⟩

/-- a new allocation handed out as a result: it is beyond every allocation the pool or a result refers to -/
theorem Inv.result {w : World} (hi : Inv w) (b : Bytes) (off len : Nat) :
    Inv { heap := (w.heap.alloc b).1, free := w.free, results := w.results ++ [⟨(w.heap.alloc b).2, off, len⟩] } := by
  have hi' := hi.heap (size_le_alloc _ b)
  refine ⟨List.forall_mem_append.2 ⟨hi'.valid, List.forall_mem_singleton.2 ?_⟩, hi'.freeValid,
    List.forall_mem_append.2 ⟨hi.sep, List.forall_mem_singleton.2 fun hin => Nat.lt_irrefl _ (hi.freeValid _ hin)⟩,
    List.pairwise_append.2 ⟨hi.distinct, List.pairwise_singleton .., fun a ha c hc => ?_⟩⟩
  · exact Nat.lt_of_lt_of_eq (Nat.lt_succ_self _) (size_alloc ..).symm
  · obtain rfl := List.mem_singleton.1 hc
    exact Nat.ne_of_lt (hi.valid a ha)

theorem getBuf_spec {h : Heap} {free : List Nat} {rs : List Ref} (hi : Inv { heap := h, free := free, results := rs }) :
    Frame free h (getBuf h free).1 ∧ ((getBuf h free).2.1 < h.mem.length → (getBuf h free).2.1 ∈ free) ∧
    Inv { heap := (getBuf h free).1, free := (getBuf h free).2.1 :: (getBuf h free).2.2, results := rs } := by
  cases free with
  | cons l rest => exact ⟨Frame.refl _ _, fun _ => List.mem_cons_self, hi⟩
  | nil =>
    refine ⟨(Frame.refl _ _).alloc [], fun hl => absurd hl (Nat.lt_irrefl _), ?_⟩
    have hi' := hi.heap (size_le_alloc _ [])
    exact ⟨hi'.valid, List.forall_mem_singleton.2 (Nat.lt_of_lt_of_eq (Nat.lt_succ_self _) (size_alloc ..).symm),
      fun r hr hin => Nat.lt_irrefl _ (List.mem_singleton.1 hin ▸ hi.valid r hr), hi.distinct⟩

theorem mkRefs_fresh (inp : Nat) (img : Bytes) {W free : List Nat} {h0 : Heap} :
    ∀ (fs : List (Nat × Nat × Prov)) (h : Heap) (rs : List Ref), (fs.all fun f => f.2.2 == .fresh) = true →
    Frame W h0 h → Inv { heap := h, free := free, results := rs } →
    Frame W h0 (mkRefs inp img h fs).1 ∧
    Inv { heap := (mkRefs inp img h fs).1, free := free, results := rs ++ (mkRefs inp img h fs).2 }
  | [], h, rs, _, hfr, hi => by simpa [mkRefs] using ⟨hfr, hi⟩
  | (off, len, p) :: fs, h, rs, hf, hfr, hi => by
    rw [List.all_cons, Bool.and_eq_true, beq_iff_eq] at hf
    obtain ⟨rfl, hf⟩ := hf
    simpa only [mkRefs, List.append_assoc, List.cons_append, List.nil_append] using
      mkRefs_fresh inp img fs _ _ hf (hfr.alloc _) (hi.result ((img.drop off).take len) 0 len)

/-- the event is the caller overwriting the allocation that result `r` lives in -/
def touches (w : World) (e : Event) (r : Ref) : Prop :=
  match e with
  | .reuse i _ => ∃ r', w.results[i]? = some r' ∧ r'.loc = r.loc
  | _ => False

theorem step_inv (w : World) (e : Event) (hi : Inv w) (hf : e.allFresh = true) :
    Inv (w.step e) ∧ (∃ new, (w.step e).results = w.results ++ new) ∧
    ∀ r ∈ w.results, ¬ touches w e r → (w.step e).heap.read r.loc = w.heap.read r.loc := by
  cases e with
  | decode img fields junk =>
    have h1 := (Frame.refl w.free w.heap).alloc img
    have ⟨hfr, hi'⟩ := mkRefs_fresh (w.heap.alloc img).2 img fields _ _ hf h1 (hi.heap h1.size)
    -- the caller's buffer is a new allocation: overwriting it is within the frame
    exact ⟨hi'.heap (Nat.le_of_eq (size_write ..).symm), ⟨_, rfl⟩, fun r hr _ =>
      (hfr.write (fun hl => absurd hl (Nat.lt_irrefl _)) _).read _ (hi.valid r hr) (hi.sep r hr)⟩
  | encode out p =>
    obtain rfl : p = .fresh := by simpa [Event.allFresh] using hf
    have ⟨hfr, hb, hi'⟩ := getBuf_spec hi
    exact ⟨(hi'.heap (Nat.le_of_eq (size_write _ _ out).symm)).result out 0 out.length, ⟨_, rfl⟩, fun r hr _ =>
      ((hfr.write hb out).alloc out).read _ (hi.valid r hr) (hi.sep r hr)⟩
  | reuse i junk =>
    simp only [World.step]
    cases hget : w.results[i]? with
    | none => exact ⟨hi, ⟨[], by simp⟩, fun _ _ _ => rfl⟩
    | some r' =>
      exact ⟨hi.heap (Nat.le_of_eq (size_write ..).symm), ⟨[], by simp⟩,
        fun r _ hnt => read_write_ne _ _ _ _ fun heq => hnt ⟨r', hget, heq.symm⟩⟩

/-- a later history leaves result `r` alone: no event reuses (overwrites) a result that lies in `r`'s allocation -/
def LeavesAlone (r : Ref) : World → List Event → Prop
  | _, [] => True
  | w, e :: es => ¬ touches w e r ∧ LeavesAlone r (w.step e) es

theorem run_inv : ∀ (es : List Event) (w : World), Inv w → (∀ e ∈ es, e.allFresh = true) → Inv (w.run es)
  | [], _, hi, _ => hi
  | e :: es, w, hi, hf =>
    run_inv es _ (step_inv w e hi (hf e (by simp))).1 (fun x hx => hf x (by simp [hx]))

theorem run_stable (r : Ref) : ∀ (es : List Event) (w : World), Inv w → r ∈ w.results →
    (∀ e ∈ es, e.allFresh = true) → LeavesAlone r w es → (w.run es).heap.read r.loc = w.heap.read r.loc
  | [], _, _, _, _, _ => rfl
  | e :: es, w, hi, hr, hf, hl => by
    obtain ⟨hi', ⟨new, hnew⟩, hkeep⟩ := step_inv w e hi (hf e (by simp))
    rw [← hkeep r hr hl.1]
    exact run_stable r es (w.step e) hi' (by rw [hnew]; simp [hr]) (fun x hx => hf x (by simp [hx])) hl.2

/-- **C12_results_own_their_memory**: in every history in which every primitive hands out fresh
    storage, a result the library returned keeps its value through any number of later decode /
    encode / formatting calls, through the caller overwriting every input buffer, and through the
    caller reusing any *other* output it holds. -/
theorem C12_results_own_their_memory (pre post : List Event)
    (hpre : ∀ e ∈ pre, e.allFresh = true) (hpost : ∀ e ∈ post, e.allFresh = true)
    (r : Ref) (hr : r ∈ (World.run {} pre).results) (hl : LeavesAlone r (World.run {} pre) post) :
    r.deref ((World.run {} pre).run post).heap = r.deref (World.run {} pre).heap := by
  simp only [Ref.deref, run_stable r post _ (run_inv pre {} inv_init hpre) hr hpost hl]

/-- the record `Own.facts` says "fresh" for every primitive, the documented views aside: the unread
    part of a reader is a view of the input (never stored in a PDU), a frame is a view of the
    connection buffer (documented in codec/codec.go) -/
theorem C12_primitives_fresh :
    Own.facts.writerBytes = .fresh ∧ Own.facts.readNBytes = .fresh ∧
    Prov.through Own.facts.parseOptions Own.facts.readerBytes = .fresh ∧
    Own.facts.readOptions = .fresh ∧ Own.facts.tlvBytes = .fresh ∧ Own.facts.stringer = .fresh ∧
    Own.facts.ucs2Pooled = .fresh := by decide

/-- provenance of the byte slices a decode statement stores in the PDU (strings are immutable
    copies made by `string(…)`, integers are values: no storage.  That is the catch-all case: a
    new kind of statement that stores a slice needs a case of its own here) -/
def decOpProv (f : OwnFacts) : DecOp → Option Prov
  | .bytesN _ _ => some f.readNBytes
  | .tlvsRead _ => some f.readOptions
  | .optsParse _ => some (Prov.through f.parseOptions f.readerBytes)   -- ParseOptions(b.Bytes())
  | .unsupported _ => some .input                                       -- unknown statement: assume the worst
  | _ => none

def decodesFresh (f : OwnFacts) (p : PduDesc) : Bool :=
  p.dec.all fun op => match decOpProv f op with | some pr => pr == .fresh | none => true

/-- the ownership facts with the parser entries *read off the source* (`Gen.optionValueProv`, regenerated
    on every run): anything but a value the syntax shows to be freshly allocated counts as aliasing -/
def provOf (fn : String) : Prov :=
  match Gen.optionValueProv.lookup fn with
  | some "fresh" => .fresh
  | _ => .input

/-- storage of the byte slices the packet reader hands out (`Gen.readerProv`, regenerated on every run
    from every return statement of the method): `fresh` only when the syntax shows a slice made in the call;
    "unknown" or a missing entry becomes `.pool`, which no entry of `Own.facts` has, so `C12_decoders_fresh` fails -/
def readerProvOf (fn : String) : Prov :=
  match Gen.readerProv.lookup fn with
  | some "fresh" => .fresh
  | some "view" => .input
  | _ => .pool

/-- the five fields that are read off the source on every run; the other four (`tlvBytes`, `frame`, `stringer`,
    `ucs2Pooled`) are taken from the hand-written `Own.facts`.  `writerBytes`: `Gen.copyOuts` must have two
    entries, both copying (`C13_copy_out` fixes their names) -/
def factsFromSource : OwnFacts :=
  { Own.facts with
    readNBytes := readerProvOf "packet.(*Reader).ReadNBytes",
    readerBytes := readerProvOf "packet.(*Reader).Bytes",
    parseOptions := provOf "smgp.ParseOptions",
    readOptions := if provOf "smgp.ReadOptions" = .fresh ∧ provOf "smpp.ReadTLVs" = .fresh ∧ provOf "smpp.ReadTLVs1" = .fresh
      then .fresh else .input,
    writerBytes := if Gen.copyOuts.all (·.2) && Gen.copyOuts.length == 2 then .fresh else .pool }

/-- per-run obligation: with the facts read off the current source, no decode statement of any PDU
    type keeps a reference into the caller's buffer, and the hand-written record agrees with them -/
theorem C12_decoders_fresh :
    Gen.allPdus.all (decodesFresh factsFromSource) = true ∧ factsFromSource = Own.facts := by decide +kernel

/-- with a `smgp.ParseOptions` that slices its values from `rawData` the obligation fails, for
    exactly the PDU type that parses its options from `b.Bytes()` -/
example : (Gen.allPdus.filter (fun p => !decodesFresh { Own.facts with parseOptions := .input } p)).map (·.name)
    = ["smgp30.Submit"] := by decide +kernel

/-- a decoder that keeps a sub-slice of its input (such a `smgp.ParseOptions`): the caller
    reusing its buffer changes the decoded value -/
example :
    let w1 := World.run {} [.decode [1, 2, 3, 4] [(1, 2, .input)] 0xEE]
    w1.results.map (·.deref w1.heap) = [[0xEE, 0xEE]] := by decide

/-- an encoder that returns a view of its pooled buffer: the next encode overwrites the result -/
example :
    let w1 := World.run {} [.encode [1, 2, 3] .pool]
    let w2 := w1.run [.encode [9, 9, 9] .fresh]
    (w1.results.map (·.deref w1.heap), (w2.results.take 1).map (·.deref w2.heap)) = ([[1, 2, 3]], [[9, 9, 9]]) := by
  decide

/-- the premises are satisfiable by a non-trivial history -/
example :
    let pre : List Event := [.decode [1, 2, 3, 4] [(1, 2, .fresh), (0, 4, .fresh)] 0xEE, .encode [7, 7] .fresh]
    let post : List Event := [.encode [8, 8, 8] .fresh, .reuse 2 0xDD, .decode [5, 5] [(0, 2, .fresh)] 0]
    let w1 := World.run {} pre
    (w1.results.map (·.deref w1.heap), ((w1.run post).results.take 2).map (·.deref (w1.run post).heap))
      = ([[2, 3], [1, 2, 3, 4], [7, 7]], [[2, 3], [1, 2, 3, 4]]) := by decide

end SmsVerif.C12

#print axioms SmsVerif.C12.C12_results_own_their_memory
#print axioms SmsVerif.C12.C12_primitives_fresh
#print axioms SmsVerif.C12.C12_decoders_fresh
#print axioms SmsVerif.C12.step_inv
