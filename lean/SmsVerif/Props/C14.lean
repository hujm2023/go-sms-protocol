/-
  C14 — no character is cut in two by a part boundary.

  A text is a list of characters, each a non-empty list of units; the encoded message is their
  concatenation.  A cut is harmless iff it is a character boundary.  `cuts_on_boundaries` (Lemmas)
  shows that with a sound boundary rule every cut is one; here the rules of the code are shown
  sound for their codings.

  The GSM 7-bit and UCS-2 rules read the unit next to the tentative cut: `exists_char_at`
  (Lemmas/Boundary.lean) names the character that unit lies in, and what is left is a check of the two
  shapes a character can have.  The GB18030 rule scans forward from the previous cut, one character
  at a time (`gb_step`), and stops on the last boundary within the capacity (`gbBoundary_last`).
-/
import SmsVerif.Lemmas.Boundary
import SmsVerif.Props.C05

namespace SmsVerif.C14
open SmsVerif SmsVerif.Split

/-- when the first cut point is a character boundary, the first part is a whole number of characters
    and what follows is again a segmented text -/
theorem boundary_split (chars : List (List Nat)) (p : Nat) (h : IsBoundary chars p) :
    ∃ k, chars.flatten.take p = (chars.take k).flatten ∧ chars.flatten.drop p = (chars.drop k).flatten := by
  obtain ⟨pre, post, rfl, rfl⟩ := isBoundary_iff.1 h
  exact ⟨pre.length, by simp, by simp⟩

theorem single_unit_boundary (chars : List (List Nat)) (h1 : ∀ c ∈ chars, c.length = 1) (p : Nat)
    (hp : p ≤ chars.flatten.length) : IsBoundary chars p := by
  rcases Nat.lt_or_eq_of_le hp with hlt | rfl
  · obtain ⟨pre, c, post, i, rfl, hi, rfl⟩ := exists_char_at chars p hlt
    obtain rfl : i = 0 := by have := h1 c (by simp); omega
    exact isBoundary_before pre _
  · exact isBoundary_length chars

theorem C14_plain_rule_sound (chars : List (List Nat)) (h1 : ∀ c ∈ chars, c.length = 1) (per : Nat) :
    BoundarySound noBoundary chars per := by
  intro b _ hlt _ _
  exact single_unit_boundary chars h1 _ (by simp only [noBoundary]; omega)

/-- **standalone_decodable (single-unit codings)**: with one unit per character every cut of the
    plain rule is a character boundary -/
theorem C14_plain_cuts_are_boundaries (chars : List (List Nat)) (h1 : ∀ c ∈ chars, c.length = 1) (per : Nat)
    (hper : 0 < per) :
    ∀ e ∈ cutPoints noBoundary chars.flatten per (chars.flatten.length + 1) 0, IsBoundary chars e :=
  cuts_on_boundaries noBoundary chars per (C14_plain_rule_sound chars h1 per)
    (fun b _ _ => by simp [noBoundary]; omega) _ 0 (isBoundary_zero chars)

/-- a GSM 7-bit septet string segmented into characters: single septets other than ESC, and
    ESC followed by a septet other than ESC -/
def GsmSeg (chars : List (List Nat)) : Prop :=
  ∀ c ∈ chars, (∃ x, c = [x] ∧ x ≠ Gsm7.esc) ∨ (∃ y, c = [Gsm7.esc, y] ∧ y ≠ Gsm7.esc)

/-- the key fact about escape pairs: the unit at offset `q` decides.  An ESC starts a character (so
    `q + 1` is inside it), any other unit ends one. -/
theorem gsm_unit (chars : List (List Nat)) (hseg : GsmSeg chars) (q : Nat) (hq : q < chars.flatten.length) :
    (chars.flatten.getD q 0 = Gsm7.esc → IsBoundary chars q ∧ ¬ IsBoundary chars (q + 1)) ∧
    (chars.flatten.getD q 0 ≠ Gsm7.esc → IsBoundary chars (q + 1)) := by
  obtain ⟨pre, c, post, i, rfl, hi, rfl⟩ := exists_char_at chars q hq
  rw [List.flatten_append, List.flatten_cons, getD_append_shift]
  rcases hseg c (by simp) with ⟨x, rfl, hx⟩ | ⟨y, rfl, hy⟩
  · obtain rfl : i = 0 := by simpa using hi
    exact ⟨fun h => absurd h hx, fun _ => isBoundary_after pre [x] post⟩
  · obtain rfl | rfl : i = 0 ∨ i = 1 := by simp at hi; omega
    · exact ⟨fun _ => ⟨isBoundary_before pre _, not_isBoundary_inside pre _ post _ (by omega) (by simp)⟩,
        fun h => absurd rfl h⟩
    · exact ⟨fun h => absurd h hy, fun _ => isBoundary_after pre [Gsm7.esc, y] post⟩

/-- **the escape rule is sound** : for GSM 7-bit septets (packed or unpacked path) the cut chosen by
    the code is a character boundary, so no escape pair straddles two parts -/
theorem C14_gsm_rule_sound (chars : List (List Nat)) (hseg : GsmSeg chars) (per : Nat) (hper : 2 ≤ per) :
    BoundarySound gsmBoundary chars per ∧
    (∀ b, IsBoundary chars b → b + per < chars.flatten.length →
      b < gsmBoundary chars.flatten b (b + per) ∧ gsmBoundary chars.flatten b (b + per) ≤ b + per) := by
  constructor
  · intro b _ hlt _ _
    have key := gsm_unit chars hseg (b + per - 1) (by omega)
    rw [show b + per - 1 + 1 = b + per by omega] at key
    unfold gsmBoundary
    split
    · rename_i h; exact (key.1 h.2).1
    · rename_i h; exact key.2 (fun hesc => h ⟨by omega, hesc⟩)
  · intro b _ _
    unfold gsmBoundary
    split <;> omega

/-- **standalone_decodable (GSM 7-bit)** : every cut the splitter makes in a GSM 7-bit message is a
    character boundary -/
theorem C14_gsm_cuts_are_boundaries (chars : List (List Nat)) (hseg : GsmSeg chars) (per : Nat) (hper : 2 ≤ per) :
    ∀ e ∈ cutPoints gsmBoundary chars.flatten per (chars.flatten.length + 1) 0, IsBoundary chars e :=
  cuts_on_boundaries gsmBoundary chars per (C14_gsm_rule_sound chars hseg per hper).1
    (C14_gsm_rule_sound chars hseg per hper).2 _ 0 (isBoundary_zero chars)

example : GsmSeg [[0x31], [Gsm7.esc, 0x3C], [0x00]] := by
  intro c hc
  simp at hc
  rcases hc with rfl | rfl | rfl
  · exact Or.inl ⟨_, rfl, by decide⟩
  · exact Or.inr ⟨_, rfl, by decide⟩
  · exact Or.inl ⟨_, rfl, by decide⟩

/-- a UTF-16BE octet string segmented into characters: two octets whose first is not a surrogate
    octet, or a surrogate pair of four octets (first octet D8..DB, third octet DC..DF) -/
def UcsSeg (chars : List (List Nat)) : Prop :=
  ∀ c ∈ chars, (∃ a b, c = [a, b] ∧ a / 4 ≠ 0x36 ∧ a / 4 ≠ 0x37) ∨
    (∃ h1 h2 l1 l2, c = [h1, h2, l1, l2] ∧ h1 / 4 = 0x36 ∧ l1 / 4 = 0x37)

theorem ucs_boundary_even (chars : List (List Nat)) (hseg : UcsSeg chars) (b : Nat) (hb : IsBoundary chars b) :
    b % 2 = 0 :=
  isBoundary_mod 2 chars (fun c hc => by rcases hseg c hc with ⟨_, _, rfl, _⟩ | ⟨_, _, _, _, rfl, _⟩ <;> simp) b hb

/-- the 16-bit unit at an even offset decides: a high surrogate starts a character (so `q + 2` is
    inside it), anything else ends one -/
theorem ucs_unit (chars : List (List Nat)) (hseg : UcsSeg chars) (q : Nat) (heven : q % 2 = 0)
    (hq : q + 2 ≤ chars.flatten.length) :
    (chars.flatten.getD q 0 / 4 = 0x36 → IsBoundary chars q ∧ ¬ IsBoundary chars (q + 2)) ∧
    (chars.flatten.getD q 0 / 4 ≠ 0x36 → IsBoundary chars (q + 2)) := by
  obtain ⟨pre, c, post, i, rfl, hi, rfl⟩ := exists_char_at chars q (by omega)
  -- the character starts at an even offset, so `i` is even
  have hpre := ucs_boundary_even _ hseg _ (isBoundary_before pre (c :: post))
  rw [List.flatten_append, List.flatten_cons, getD_append_shift]
  rcases hseg c (by simp) with ⟨a, b, rfl, ha, _⟩ | ⟨h1, h2, l1, l2, rfl, hh, hl⟩
  · obtain rfl : i = 0 := by simp at hi; omega
    exact ⟨fun h => absurd h ha, fun _ => isBoundary_after pre [a, b] post⟩
  · obtain rfl | rfl : i = 0 ∨ i = 2 := by simp at hi; omega
    · exact ⟨fun _ => ⟨isBoundary_before pre _, not_isBoundary_inside pre _ post _ (by omega) (by simp)⟩,
        fun h => absurd hh h⟩
    · refine ⟨fun h => ?_, fun _ => isBoundary_after pre [h1, h2, l1, l2] post⟩
      simp at h; omega

/-- **the surrogate rule is sound**: for UTF-16BE text and an even capacity of at least four octets
    the cut chosen by the code is a character boundary (an odd capacity would put the tentative cut inside a
    16-bit unit, one below four leaves no room for a surrogate pair) -/
theorem C14_ucs2_rule_sound (chars : List (List Nat)) (hseg : UcsSeg chars) (per : Nat) (hper : 4 ≤ per)
    (heven : per % 2 = 0) :
    BoundarySound ucs2Boundary chars per ∧
    (∀ b, IsBoundary chars b → b + per < chars.flatten.length →
      b < ucs2Boundary chars.flatten b (b + per) ∧ ucs2Boundary chars.flatten b (b + per) ≤ b + per) := by
  constructor
  · intro b hb hlt _ _
    have hbe := ucs_boundary_even chars hseg b hb
    have key := ucs_unit chars hseg (b + per - 2) (by omega) (by omega)
    rw [show b + per - 2 + 2 = b + per by omega] at key
    unfold ucs2Boundary
    split
    · rename_i h; exact (key.1 h.2).1
    · rename_i h; exact key.2 (fun hhi => h ⟨by omega, hhi⟩)
  · intro b _ _
    unfold ucs2Boundary
    split <;> omega

/-- **standalone_decodable (UCS-2)**: every cut the splitter makes in a UTF-16BE message is a
    character boundary: no surrogate pair straddles two parts -/
theorem C14_ucs2_cuts_are_boundaries (chars : List (List Nat)) (hseg : UcsSeg chars) (per : Nat) (hper : 4 ≤ per)
    (heven : per % 2 = 0) :
    ∀ e ∈ cutPoints ucs2Boundary chars.flatten per (chars.flatten.length + 1) 0, IsBoundary chars e :=
  cuts_on_boundaries ucs2Boundary chars per (C14_ucs2_rule_sound chars hseg per hper heven).1
    (C14_ucs2_rule_sound chars hseg per hper heven).2 _ 0 (isBoundary_zero chars)

/-- U+4F60, U+1F600 (D83D DE00), U+597D -/
example : UcsSeg [[0x4F, 0x60], [0xD8, 0x3D, 0xDE, 0x00], [0x59, 0x7D]] := by
  intro c hc
  simp at hc
  rcases hc with rfl | rfl | rfl
  · exact Or.inl ⟨_, _, rfl, by decide, by decide⟩
  · exact Or.inr ⟨_, _, _, _, rfl, by decide, by decide⟩
  · exact Or.inl ⟨_, _, rfl, by decide, by decide⟩

/-- a GB18030 octet string segmented into characters, by the classification the code uses
    (`gbCharLen`).  It admits more than valid GB18030 does (0x80 and 0xFF as single octets, any
    second octet outside 0x30..0x39), so every valid GB18030 string has such a segmentation: what is
    assumed of golang.org/x/text is only that its output is valid. -/
def GbSeg (chars : List (List Nat)) : Prop :=
  ∀ c ∈ chars, (∃ a, c = [a] ∧ (a < 0x81 ∨ a = 0xFF)) ∨
    (∃ a b, c = [a, b] ∧ 0x81 ≤ a ∧ a ≠ 0xFF ∧ ¬ (0x30 ≤ b ∧ b ≤ 0x39)) ∨
    (∃ a b c' d, c = [a, b, c', d] ∧ 0x81 ≤ a ∧ a ≠ 0xFF ∧ 0x30 ≤ b ∧ b ≤ 0x39)

theorem gbCharLen_shift (c l : List Nat) (i : Nat) : gbCharLen (c ++ l) (c.length + i) = gbCharLen l i := by
  unfold gbCharLen
  rw [getD_append_shift, show c.length + i + 1 = c.length + (i + 1) by omega, getD_append_shift]

/-- at a character boundary the length the code computes is the length of the character that starts
    there: the next scan position is the next boundary -/
theorem gb_step (chars : List (List Nat)) (hseg : GbSeg chars) (p : Nat) (hb : IsBoundary chars p)
    (hlt : p < chars.flatten.length) :
    IsBoundary chars (p + gbCharLen chars.flatten p) ∧
      ∀ q, p < q → q < p + gbCharLen chars.flatten p → ¬ IsBoundary chars q := by
  obtain ⟨pre, c, post, rfl, rfl⟩ := exists_char_from chars p hb hlt
  have hlen : gbCharLen (pre ++ c :: post).flatten pre.flatten.length = c.length := by
    rw [List.flatten_append, List.flatten_cons, ← Nat.add_zero pre.flatten.length, gbCharLen_shift]
    rcases hseg c (by simp) with ⟨a, rfl, ha⟩ | ⟨a, b, rfl, ha1, ha2, hb2⟩ | ⟨a, b, c', d, rfl, ha1, ha2, hb1, hb2⟩
    · simp [gbCharLen, ha]
    · have h1 : ¬ (a < 0x81 ∨ a = 0xFF) := by omega
      simp [gbCharLen, h1, hb2]
    · have h1 : ¬ (a < 0x81 ∨ a = 0xFF) := by omega
      simp [gbCharLen, h1, hb1, hb2]
  rw [hlen]
  exact ⟨isBoundary_after pre c post, not_isBoundary_inside pre c post⟩

theorem gbScan_last (chars : List (List Nat)) (hseg : GbSeg chars) (e : Nat) (he : e < chars.flatten.length) :
    ∀ (fuel pos : Nat), IsBoundary chars pos → pos ≤ e → e - pos ≤ fuel →
      IsBoundary chars (gbScan chars.flatten e fuel pos) ∧ pos ≤ gbScan chars.flatten e fuel pos ∧
        gbScan chars.flatten e fuel pos ≤ e ∧
        ∀ q, gbScan chars.flatten e fuel pos < q → q ≤ e → ¬ IsBoundary chars q
  | 0, pos, hb, hle, hf => ⟨hb, Nat.le_refl _, hle, fun q h1 h2 => by simp only [gbScan] at h1; omega⟩
  | fuel+1, pos, hb, hle, hf => by
    obtain ⟨s1, s2⟩ := gb_step chars hseg pos hb (by omega)
    have := (gbCharLen_le chars.flatten pos).1
    simp only [gbScan]
    split
    · rename_i hnxt
      obtain ⟨r1, r2, r3⟩ := gbScan_last chars hseg e he fuel _ s1 hnxt (by omega)
      exact ⟨r1, by omega, r3⟩
    · exact ⟨hb, Nat.le_refl _, hle, fun q h1 h2 => s2 q h1 (by omega)⟩

/-- the GB18030 rule returns the last character boundary within the capacity, and there is one: the
    first character after `b` has at most four octets -/
theorem gbBoundary_last (chars : List (List Nat)) (hseg : GbSeg chars) (per : Nat) (hper : 4 ≤ per) (b : Nat)
    (hb : IsBoundary chars b) (hlt : b + per < chars.flatten.length) :
    IsBoundary chars (gbBoundary chars.flatten b (b + per)) ∧ b < gbBoundary chars.flatten b (b + per) ∧
      gbBoundary chars.flatten b (b + per) ≤ b + per ∧
      ∀ q, gbBoundary chars.flatten b (b + per) < q → q ≤ b + per → ¬ IsBoundary chars q := by
  obtain ⟨r1, r2, r3, r4⟩ := gbScan_last chars hseg (b + per) hlt (b + per - b) b hb (by omega) (by omega)
  have hl := gbCharLen_le chars.flatten b
  -- the character that starts at `b` ends within the capacity, so the scan gets past `b`
  have hprog : b < gbScan chars.flatten (b + per) (b + per - b) b :=
    Nat.lt_of_not_ge fun h => r4 _ (by omega) (by omega) (gb_step chars hseg b hb (by omega)).1
  unfold gbBoundary
  simp only [hprog, if_true]
  exact ⟨r1, trivial, r3, r4⟩

/-- **the GB18030 rule is sound**: with a capacity of at least four octets the cut chosen by the code
    is a character boundary strictly after the previous one -/
theorem C14_gb18030_rule_sound (chars : List (List Nat)) (hseg : GbSeg chars) (per : Nat) (hper : 4 ≤ per) :
    BoundarySound gbBoundary chars per ∧
    (∀ b, IsBoundary chars b → b + per < chars.flatten.length →
      b < gbBoundary chars.flatten b (b + per) ∧ gbBoundary chars.flatten b (b + per) ≤ b + per) :=
  ⟨fun b hb hlt _ _ => (gbBoundary_last chars hseg per hper b hb hlt).1,
   fun b hb hlt => have h := gbBoundary_last chars hseg per hper b hb hlt; ⟨h.2.1, h.2.2.1⟩⟩

/-- **standalone_decodable (GB18030)**: every cut the splitter makes in a GB18030 message is a
    character boundary: no two- or four-octet character straddles two parts -/
theorem C14_gb18030_cuts_are_boundaries (chars : List (List Nat)) (hseg : GbSeg chars) (per : Nat) (hper : 4 ≤ per) :
    ∀ e ∈ cutPoints gbBoundary chars.flatten per (chars.flatten.length + 1) 0, IsBoundary chars e :=
  cuts_on_boundaries gbBoundary chars per (C14_gb18030_rule_sound chars hseg per hper).1
    (C14_gb18030_rule_sound chars hseg per hper).2 _ 0 (isBoundary_zero chars)

/-- 'A', U+4F60 (C4 E3), U+1F600 (94 39 FC 36) -/
example : GbSeg [[0x41], [0xC4, 0xE3], [0x94, 0x39, 0xFC, 0x36]] := by
  intro c hc
  simp at hc
  rcases hc with rfl | rfl | rfl
  · exact Or.inl ⟨_, rfl, by decide⟩
  · exact Or.inr (Or.inl ⟨_, _, rfl, by decide, by decide, by decide⟩)
  · exact Or.inr (Or.inr ⟨_, _, _, _, rfl, by decide, by decide, by decide, by decide⟩)

/-! ### parts are filled as far as whole characters allow (C07 states these as `C07_parts_filled_*`) -/

/-- **parts are filled (GSM 7-bit)**: between the cut the code chooses and the capacity there is no
    character boundary: the part could not have held one more whole character -/
theorem C07_filled_gsm (chars : List (List Nat)) (hseg : GsmSeg chars) (per : Nat) (b : Nat)
    (hlt : b + per < chars.flatten.length) (q : Nat)
    (h1 : gsmBoundary chars.flatten b (b + per) < q) (h2 : q ≤ b + per) : ¬ IsBoundary chars q := by
  unfold gsmBoundary at h1
  split at h1
  · rename_i hc
    obtain rfl : q = b + per - 1 + 1 := by omega
    exact ((gsm_unit chars hseg (b + per - 1) (by omega)).1 hc.2).2
  · omega

/-- **parts are filled (UCS-2)**: the same for the surrogate rule; boundaries lie at even offsets,
    so beyond a cut moved back by two only `b + per` itself is in question -/
theorem C07_filled_ucs2 (chars : List (List Nat)) (hseg : UcsSeg chars) (per : Nat) (heven : per % 2 = 0) (b : Nat)
    (hb : IsBoundary chars b) (hlt : b + per < chars.flatten.length) (q : Nat)
    (h1 : ucs2Boundary chars.flatten b (b + per) < q) (h2 : q ≤ b + per) : ¬ IsBoundary chars q := by
  have hbe := ucs_boundary_even chars hseg b hb
  unfold ucs2Boundary at h1
  split at h1
  · rename_i hc
    intro hq
    -- `q` is even and lies in `(b + per - 2, b + per]`
    have hqe := ucs_boundary_even chars hseg q hq
    obtain rfl : q = b + per - 2 + 2 := by omega
    exact ((ucs_unit chars hseg (b + per - 2) (by omega) (by omega)).1 hc.2).2 hq
  · omega

/-- **parts are filled (GB18030)**: the same for the scanning rule, which stops on the last
    boundary within the capacity (`gbBoundary_last`) -/
theorem C07_filled_gb18030 (chars : List (List Nat)) (hseg : GbSeg chars) (per : Nat) (hper : 4 ≤ per) (b : Nat)
    (hb : IsBoundary chars b) (hlt : b + per < chars.flatten.length) (q : Nat)
    (h1 : gbBoundary chars.flatten b (b + per) < q) (h2 : q ≤ b + per) : ¬ IsBoundary chars q :=
  (gbBoundary_last chars hseg per hper b hb hlt).2.2.2 q h1 h2

/-! ### the encoders emit segmented strings: the segmentation hypotheses discharged

  For ASCII, Windows-1252, UTF-16BE and GSM 7-bit the encoder is modelled (`Model/Text.lean`,
  `Model/Gsm7.lean`, tied to `datacoding` by C05 / C08), so "the message is a sequence of whole
  characters" is a theorem about the encoder's output rather than an assumption.  (GB18030 is
  golang.org/x/text and stays an assumption.) -/

open SmsVerif.Text in
/-- the octets of each scalar of a text under a per-scalar coding -/
def codeChars (c : Text.Coding) (text : List Nat) : List (List Nat) := text.map fun s => (c.code s).getD []

open SmsVerif.Text in
theorem utf16_chars_seg (text : List Nat) (h : ∀ s ∈ text, ∃ u, utf16.code s = some u) :
    UcsSeg (codeChars utf16 text) := by
  intro c hc
  obtain ⟨s, hs, rfl⟩ := List.mem_map.1 hc
  obtain ⟨u, hu⟩ := h s hs
  rw [hu]
  rcases utf16_code_some hu with ⟨w, rfl, _, _, _⟩ | ⟨hi, lo, rfl, _⟩
  · exact .inl ⟨_, _, rfl, by omega, by omega⟩
  · exact .inr ⟨_, _, _, _, rfl, by omega, by omega⟩

open SmsVerif.Text in
/-- **C14_ucs2_text_never_split**: for every text the UCS-2 encoder accepts, every cut the splitter
    makes in the encoded message falls between two scalars — no assumption on the octets. -/
theorem C14_ucs2_text_never_split (text out : List Nat) (h : encodeAll utf16 text = some out)
    (per : Nat) (hper : 4 ≤ per) (heven : per % 2 = 0) :
    ∀ e ∈ cutPoints ucs2Boundary out per (out.length + 1) 0, IsBoundary (codeChars utf16 text) e := by
  obtain ⟨hall, rfl⟩ := (encodeAll_eq_some_iff utf16 text out).1 h
  exact C14_ucs2_cuts_are_boundaries _ (utf16_chars_seg text hall) per hper heven

open SmsVerif.Text in
/-- single-octet codings (ASCII, Windows-1252): every scalar is one octet, every cut is a boundary -/
theorem C14_single_octet_text_never_split (c : Coding) (h1 : ∀ s u, c.code s = some u → u.length = 1)
    (text out : List Nat) (h : encodeAll c text = some out) (per : Nat) (hper : 0 < per) :
    ∀ e ∈ cutPoints noBoundary out per (out.length + 1) 0, IsBoundary (codeChars c text) e := by
  obtain ⟨hall, rfl⟩ := (encodeAll_eq_some_iff c text out).1 h
  refine C14_plain_cuts_are_boundaries _ (fun ch hch => ?_) per hper
  obtain ⟨s, hs, rfl⟩ := List.mem_map.1 hch
  obtain ⟨u, hu⟩ := hall s hs
  rw [hu]; exact h1 s u hu

/-- GSM 7-bit: the septets of each code point -/
def gsmChars (t : Gsm7.Tables) (text : List Nat) : List (List Nat) :=
  text.map fun c =>
    match Gsm7.lookup t.fwd c with
    | some v => [v]
    | none => match Gsm7.lookup t.fwdEsc c with
      | some v => [Gsm7.esc, v]
      | none => []

/-- the septets of one code point (as in `gsmChars`) -/
def gsmCode (t : Gsm7.Tables) (c : Nat) : List Nat :=
  match Gsm7.lookup t.fwd c with
  | some v => [v]
  | none => match Gsm7.lookup t.fwdEsc c with
    | some v => [Gsm7.esc, v]
    | none => []

theorem gsmChars_eq_map (t : Gsm7.Tables) (text : List Nat) : gsmChars t text = text.map (gsmCode t) := rfl

theorem gsmChars_eq (t : Gsm7.Tables) : gsmChars t = codeChars (Gsm7.coding t) := by
  funext text
  refine List.map_congr_left fun c _ => ?_
  simp only [Gsm7.coding]
  cases Gsm7.lookup t.fwd c <;> cases Gsm7.lookup t.fwdEsc c <;> rfl

/-- no character of the regenerated alphabet is coded as ESC, neither directly nor after an ESC -/
theorem gsm_tables_avoid_esc :
    (C08.T.fwd.all fun kv => kv.2 != Gsm7.esc) = true ∧ (C08.T.fwdEsc.all fun kv => kv.2 != Gsm7.esc) = true :=
  ⟨List.all_eq_true.2 fun kv h => by simpa using (C08.fwd_facts kv h).1,
    List.all_eq_true.2 fun kv h => by simpa using (C08.fwdEsc_facts kv h).1⟩

theorem gsm_chars_seg (text s : List Nat) (h : Gsm7.encode C08.T text = some s) :
    GsmSeg (gsmChars C08.T text) ∧ (gsmChars C08.T text).flatten = s := by
  rw [gsmChars_eq]
  obtain ⟨hall, rfl⟩ := (Text.encodeAll_eq_some_iff _ text s).1 (Gsm7.encode_eq C08.T text ▸ h)
  refine ⟨fun ch hch => ?_, rfl⟩
  obtain ⟨c, hc, rfl⟩ := List.mem_map.1 hch
  obtain ⟨u, hu⟩ := hall c hc
  rw [hu]
  obtain ⟨v, hne, _, ⟨rfl, _⟩ | ⟨rfl, _⟩⟩ := C08.code_some hu
  · exact .inl ⟨v, rfl, hne⟩
  · exact .inr ⟨v, rfl, hne⟩

/-- **C14_gsm_text_never_split**: for every text the GSM 7-bit encoder accepts, no cut separates an
    ESC from the septet it introduces -/
theorem C14_gsm_text_never_split (text s : List Nat) (h : Gsm7.encode C08.T text = some s) (per : Nat) (hper : 2 ≤ per) :
    ∀ e ∈ cutPoints gsmBoundary s per (s.length + 1) 0, IsBoundary (gsmChars C08.T text) e := by
  obtain ⟨hseg, rfl⟩ := gsm_chars_seg text s h
  exact C14_gsm_cuts_are_boundaries _ hseg per hper

open SmsVerif.Text in
/-- **standalone_decodable, at the level of texts** (any per-scalar coding whose cut points are
    character boundaries): the payloads of the parts are the encodings of consecutive pieces of the
    text, each piece decodes on its own to itself, and the pieces concatenate to the text. -/
theorem parts_decode_to_text (c : Coding)
    (h1 : ∀ s u rest, c.code s = some u → c.step (u ++ rest) = some (s, rest))
    (hne : ∀ s u, c.code s = some u → u ≠ [])
    (text out : List Nat) (henc : encodeAll c text = some out) (per : Nat) (cuts : List Nat)
    (hpart : Partition per out.length 0 cuts) (hb : ∀ e ∈ cuts, IsBoundary (codeChars c text) e) :
    ∃ pieces : List (List Nat), pieces.flatten = text ∧
      slices out 0 cuts = pieces.map (fun t => (codeChars c t).flatten) ∧
      ∀ t ∈ pieces, decodeAll c (t.length + 1) (codeChars c t).flatten = some t := by
  obtain ⟨hall, rfl⟩ := (encodeAll_eq_some_iff c text out).1 henc
  obtain ⟨pieces, hp, hsl⟩ := slices_are_pieces (fun s => (c.code s).getD []) per cuts [] text
    (fun s hs => by obtain ⟨u, hu⟩ := hall s hs; rw [hu]; exact hne s u hu) hpart hb
  refine ⟨pieces, hp, hsl, fun t ht => ?_⟩
  -- a piece of an accepted text is accepted
  have hsub : ∀ s ∈ t, ∃ u, c.code s = some u := fun s hs => hall s (hp ▸ List.mem_flatten.2 ⟨t, ht, hs⟩)
  exact C05.string_roundtrip c h1 hne t _ ((encodeAll_eq_some_iff c t _).2 ⟨hsub, rfl⟩) _ (by omega)

open SmsVerif.Text in
/-- **C14 for UCS-2**: for every text the encoder accepts, with the surrogate-aware rule, the parts
    decoded separately and concatenated give the text -/
theorem C14_ucs2_parts_decode_to_text (text out : List Nat) (h : encodeAll utf16 text = some out)
    (per : Nat) (hper : 4 ≤ per) (heven : per % 2 = 0) :
    ∃ pieces : List (List Nat), pieces.flatten = text ∧
      slices out 0 (cutPoints ucs2Boundary out per (out.length + 1) 0)
        = pieces.map (fun t => (codeChars utf16 t).flatten) ∧
      ∀ t ∈ pieces, decodeAll utf16 (t.length + 1) (codeChars utf16 t).flatten = some t :=
  parts_decode_to_text utf16 utf16_step_code (fun _ _ => utf16_code_ne_nil) text out h per _ (cuts_partition ucs2Boundary out per (by omega))
    (C14_ucs2_text_never_split text out h per hper heven)

/-- **C14 for GSM 7-bit**: the parts (septet strings, cut with the escape-aware rule) decoded
    separately and concatenated give the text -/
theorem C14_gsm_parts_decode_to_text (text s : List Nat) (h : Gsm7.encode C08.T text = some s)
    (per : Nat) (hper : 2 ≤ per) :
    ∃ pieces : List (List Nat), pieces.flatten = text ∧
      slices s 0 (cutPoints gsmBoundary s per (s.length + 1) 0)
        = pieces.map (fun t => (gsmChars C08.T t).flatten) ∧
      ∀ t ∈ pieces, Gsm7.decode C08.T (gsmChars C08.T t).flatten = some t := by
  have hcuts := C14_gsm_text_never_split text s h per hper
  rw [gsmChars_eq] at hcuts ⊢
  obtain ⟨pieces, hp, hsl, hdec⟩ := parts_decode_to_text (Gsm7.coding C08.T) C08.step_code C08.code_ne_nil text s
    (Gsm7.encode_eq C08.T text ▸ h) per _ (cuts_partition gsmBoundary _ per (by omega)) hcuts
  exact ⟨pieces, hp, hsl, fun t ht => Gsm7.decode_of_decodeAll _ _ _ _ (hdec t ht)⟩

/-- non-vacuity: "你😀好" is accepted by the UCS-2 encoder (8 octets, the pair in the middle) -/
example : Text.encodeAll Text.utf16 [0x4F60, 0x1F600, 0x597D] = some [0x4F, 0x60, 0xD8, 0x3D, 0xDE, 0x00, 0x59, 0x7D] := by decide
/-- non-vacuity: "a€b" is accepted by the GSM 7-bit encoder as 61 1B 65 62 -/
example : Gsm7.encode C08.T [0x61, 0x20AC, 0x62] = some [0x61, 0x1B, 0x65, 0x62] := by decide +kernel

end SmsVerif.C14

section
open SmsVerif.C14
#print axioms boundary_split
#print axioms C14_plain_rule_sound
#print axioms C14_gsm_rule_sound
#print axioms C14_gsm_cuts_are_boundaries
#print axioms C14_plain_cuts_are_boundaries
#print axioms C14_ucs2_rule_sound
#print axioms C14_ucs2_cuts_are_boundaries
#print axioms C14_gb18030_rule_sound
#print axioms C14_gb18030_cuts_are_boundaries
#print axioms C07_filled_gsm
#print axioms C07_filled_ucs2
#print axioms C07_filled_gb18030
#print axioms C14_ucs2_parts_decode_to_text
#print axioms C14_gsm_parts_decode_to_text
#print axioms parts_decode_to_text
#print axioms C14_ucs2_text_never_split
#print axioms C14_gsm_text_never_split
#print axioms C14_single_octet_text_never_split
#print axioms gsm_tables_avoid_esc
#print axioms SmsVerif.Split.cuts_on_boundaries
end
