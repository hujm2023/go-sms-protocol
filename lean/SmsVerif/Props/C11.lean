/-
  C11 — decode → encode → decode is stable; canonical images re-encode bit for bit.

  Proved from the reflective round-trip theorem (C01) and `decode_fits` (Lemmas/DecodedFits.lean:
  whatever a decoder accepts fits the wire format after the encoder's own normalisation), hence for
  arbitrary accepted octet strings: junk after NULs, inconsistent but parseable counts, duplicate
  optional tags, extreme values, maximum-length optional values are all just octet strings here.
  Not covered (explored on the implementation): the four types of `notCovered`.
-/
import SmsVerif.Props.C01
import SmsVerif.Props.C02
import SmsVerif.Lemmas.DecodedFits

namespace SmsVerif.C11
open SmsVerif SmsVerif.C01

def allTargets (its : List Item) : List String := its.flatMap Item.targets

/-- **C11_stable_partial** : a PDU value whose normal form fits re-encodes, and decoding the result
    gives the same value in every field that the encoder does not normalise (of the normalised fields
    the statement says nothing; `C01_roundtrip` has them equal to the normal form's) -/
theorem C11_stable_partial (p : PduDesc) (hp : p ∈ Gen.allPdus) (hx : exceptions.contains p.name = false) :
    ∃ lf its, p.items = some (lf, its) ∧ ∀ dec : Rec,
      (∀ it ∈ its, it.Fits (norm its dec)) → (itemsBytes (norm its dec) its).length + 4 < 2 ^ 32 →
      ∃ bs dec2, (∃ r', p.encode dec = .ok (bs, r')) ∧ p.decode bs = .ok dec2 ∧
        ∀ ft ∈ p.fields, ft.1 ∉ allTargets its → ¬ (p.fin = .withLength ∧ ft.1 = lf) →
          dec2.get? ft.1 = dec.get? ft.1 := by
  obtain ⟨lf, its, hits, hrt⟩ := C01_roundtrip p hp hx
  refine ⟨lf, its, hits, fun dec hfit hsize => ?_⟩
  obtain ⟨bs, dec2, henc, hdec, hfields⟩ := hrt dec hfit hsize
  refine ⟨bs, dec2, ⟨_, henc⟩, hdec, fun ft hft hnt hnl => ?_⟩
  rw [hfields ft hft, if_neg hnl]
  exact norm_get?_other its dec ft.1 hnt

/-- the fields `IEncode` assigns in its receiver (`"?"`, for a layout whose statements do not align, is in no
    list below and fails the check) -/
def normalisedFields (p : PduDesc) : List String :=
  match p.items with
  | some (_, its) => allTargets its
  | none => ["?"]

/-- **C11_normalisations_are_documented** : over all regenerated layouts `IEncode` assigns no field of its receiver
    but the hand-computed header length of the CMPP 2.0 types, the CMPP 2.0 submit part counters (0/0 → 1/1)
    and the SGIP user count -/
theorem C11_normalisations_are_documented :
    Gen.allPdus.all (fun p => (normalisedFields p).all fun f =>
      f == "Header.TotalLength" || (p.name == "cmpp20.PduSubmit" && (f == "PkTotal" || f == "PkNumber")) ||
      (p.name == "sgip12.Submit" && f == "UserCount")) = true := by decide +kernel

/-- **C11_same_fields_same_bytes** : the image depends only on the fields the items read — the step from
    C01 (the decoded PDU agrees with the normal form on those fields) towards "a canonical image re-encodes
    bit for bit", which is itself not a theorem of this file -/
theorem C11_same_fields_same_bytes (its : List Item) (a b : Rec)
    (h : ∀ it ∈ its, AgreeOn it.mentions a b) : itemsBytes a its = itemsBytes b its := by
  induction its with
  | nil => rfl
  | cons it rest ih =>
    rw [itemsBytes_cons, itemsBytes_cons, it.bytes_congr (h it (by simp)),
      ih (fun x hx => h x (by simp [hx]))]

/-- PDU types outside `C11_accepted_reencodes`: those outside the round-trip theorem (the two SMGP types of
    the open finding, the two SMPP responses with a conditional body) -/
def notCovered : List String := exceptions

/-- per-run obligation: the static check of `decode_fits` accepts every other regenerated layout -/
theorem layouts_decoded_fit :
    (Gen.allPdus.filter (fun p => !notCovered.contains p.name)).all PduDesc.checkDecodedFits = true := by
  decide +kernel

theorem accepted_fits {p : PduDesc} (hp : p ∈ Gen.allPdus) (hx : notCovered.contains p.name = false)
    {data : Bytes} (hoct : ∀ x ∈ data, x < 256) {r : Rec} (hdec : p.decode data = .ok r) :
    ∃ lf its, p.items = some (lf, its) ∧ (∀ it ∈ its, it.Fits (norm its r)) ∧
      (p.ret ≠ .nilAlways → wireSum r its + (if p.fin = .withLength then 4 else 0) ≤ data.length) :=
  decode_fits p (List.all_eq_true.1 layouts_decoded_fit p (List.mem_filter.2 ⟨hp, by rw [hx]; rfl⟩)) data hoct r hdec

/-- **C11_accepted_reencodes**: whatever octet string a decoder accepts, the decoded PDU re-encodes
    without error, and decoding the re-encoded octets gives the same PDU again in every field but
    those the encoder normalises (listed by `C11_normalisations_are_documented`) and the one that holds
    the header length, provided the re-encoded image stays below 4 GiB.  `hoct`: an octet is a `Nat` in
    the model. -/
theorem C11_accepted_reencodes (p : PduDesc) (hp : p ∈ Gen.allPdus) (hx : notCovered.contains p.name = false)
    (data : Bytes) (hoct : ∀ x ∈ data, x < 256) (r : Rec) (hdec : p.decode data = .ok r) :
    ∃ lf its, p.items = some (lf, its) ∧
      ((itemsBytes (norm its r) its).length + 4 < 2 ^ 32 →
        ∃ bs r2, (∃ r', p.encode r = .ok (bs, r')) ∧ p.decode bs = .ok r2 ∧
          ∀ ft ∈ p.fields, ft.1 ∉ allTargets its → ¬ (p.fin = .withLength ∧ ft.1 = lf) →
            r2.get? ft.1 = r.get? ft.1) := by
  obtain ⟨lf, its, hits, hfit, _⟩ := accepted_fits hp hx hoct hdec
  obtain ⟨lf', its', hits', hst⟩ := C11_stable_partial p hp hx
  cases hits.symm.trans hits'
  exact ⟨lf, its, hits, hst r hfit⟩

/-- **C11_reencoded_is_frame**: what a relay sends on is a frame — the decoded PDU of any accepted octet
    string re-encodes, its type has a document table, and (for every type that has a message header) the
    first four octets of the re-encoded image are its own length modulo 2^32, so the framer at the next
    hop cuts exactly this image.  (The proof has the image equal to the table's reference serialisation,
    `C02_bytes_are_spec`; the statement does not keep that.) -/
theorem C11_reencoded_is_frame (p : PduDesc) (hp : p ∈ Gen.allPdus) (hx : notCovered.contains p.name = false)
    (hd : C02.deviations.contains p.name = false)
    (data : Bytes) (hoct : ∀ x ∈ data, x < 256) (r : Rec) (hdec : p.decode data = .ok r) :
    ∃ s ∈ Spec.all, s.pdu = p.name ∧ ∃ bs r', p.encode r = .ok (bs, r') ∧
      (s.lenField.isSome = true → bs.take 4 = be 4 bs.length) := by
  obtain ⟨lf, its, hits, hfit, _⟩ := accepted_fits hp hx hoct hdec
  obtain ⟨s, hs, hn, lf', its', hits', henc⟩ := C02.C02_bytes_are_spec p hp hd
  cases hits.symm.trans hits'
  exact ⟨s, hs, hn, _, _, henc r hfit, fun hl => C02.C02_length_prefix s hl _⟩

/-- non-vacuity: a CMPP 3.0 deliver-response image with junk in every field is accepted -/
example : (match Gen.cmpp30_DeliverResp.decode (be 4 24 ++ be 4 0x80000005 ++ be 4 7 ++ be 8 0x1122334455667788 ++ be 4 9) with
    | .ok _ => true | _ => false) = true := by decide +kernel

end SmsVerif.C11

section
open SmsVerif.C11
#print axioms C11_stable_partial
#print axioms C11_normalisations_are_documented
#print axioms C11_same_fields_same_bytes
#print axioms C11_accepted_reencodes
#print axioms C11_reencoded_is_frame
#print axioms layouts_decoded_fit
end
