/-
  C07 — every part fits one SMS and carries a correct, parseable concatenation header.
-/
import SmsVerif.Lemmas.SplitCount
import SmsVerif.Props.C14
import SmsVerif.Gen.Tables

namespace SmsVerif.C07
open SmsVerif SmsVerif.Split

/-- **part_sizes** : every part of a split message is the 6-octet header followed by a non-empty
    payload of at most `per` units (134 octets → at most 140 octets per part).  The parts here carry
    their slices as they are; on the packed GSM 7-bit path a slice of at most 153 septets is packed
    first (`C06_split_concat_packed`, `C08_pack_length`: at most 134 octets). -/
theorem C07_part_sizes (bnd : Boundary) (d : List Nat) (per ref : Nat) (hper : 0 < per)
    (parts : List (List Nat)) (h : splitUnits bnd d per ref = .ok parts) :
    ∀ p ∈ parts, 6 < p.length ∧ p.length ≤ per + 6 := by
  obtain ⟨_, rfl⟩ := splitUnits_ok bnd d per ref id parts h
  intro p hp
  obtain ⟨seq, s, hs, rfl⟩ := mem_withHeaders hp
  rw [List.map_id] at hs
  have := slices_sizes d per 0 _ (cuts_partition bnd d per hper) s hs
  simp only [List.length_append, header, List.length_cons, List.length_nil]
  omega

/-- **header_fields** : part `k` (counting from 0) is `05 00 03 ref total k+1` followed by its
    payload, `total` being the number of parts, which is at most 255 (so only `ref` is reduced by
    its `% 256`: the counters are not wrapped). -/
theorem C07_header_fields (bnd : Boundary) (d : List Nat) (per ref : Nat)
    (parts : List (List Nat)) (h : splitUnits bnd d per ref = .ok parts) :
    parts.length ≤ 255 ∧ ∀ k, k < parts.length →
      ∃ payload, parts[k]? = some ([0x05, 0x00, 0x03, ref % 256, parts.length % 256, (k + 1) % 256] ++ payload) := by
  obtain ⟨hle, rfl⟩ := splitUnits_ok bnd d per ref id parts h
  simp only [withHeaders_length, List.map_id, length_slices]
  refine ⟨hle, fun k hk => ⟨(slices d 0 (cutPoints bnd d per (d.length + 1) 0))[k]'(by rwa [length_slices]), ?_⟩⟩
  rw [withHeaders_get _ _ _ _ k (by rwa [length_slices])]
  simp [header]

/-- **too_many_parts_refused** : a message needing more than 255 parts is an error, never wrapped counters -/
theorem C07_too_many_parts_refused (bnd : Boundary) (d : List Nat) (per ref : Nat)
    (h : 255 < (cutPoints bnd d per (d.length + 1) 0).length) :
    splitUnits bnd d per ref = .error .tooManyParts := by
  simp [splitUnits, h]

/-- with the plain rule the number of parts is exactly ⌈n/per⌉: the two bounds that hold for every
    rule (Lemmas/SplitCount.lean) meet when a cut is never moved back -/
theorem cutPoints_plain_length (d : List Nat) (per : Nat) (hper : 0 < per) (fuel b : Nat)
    (hb : b ≤ d.length) (hfuel : d.length - b < fuel) :
    (cutPoints noBoundary d per fuel b).length = (d.length - b + per - 1) / per := by
  have lo := partition_lower per d.length _ b (cutPoints_partition noBoundary d per hper fuel b hb hfuel)
  have hi := cutPoints_upper noBoundary d per 0 hper (noBoundary_backs d per) fuel b
  rw [Nat.sub_zero] at hi
  refine (Nat.div_eq_of_lt_le ?_ ?_).symm
  · omega
  · rw [Nat.add_one_mul]; omega

/-! ### how many parts, for every content (Lemmas/SplitCount.lean)

The rules move a cut back by at most `s` units: 0 (plain), 1 (GSM escape), 2 (UCS-2 surrogate
pair), 3 (GB18030 four-octet character).  That alone bounds the number of parts from both sides
and fixes when the 255-part refusal can and cannot happen; in between the real cuts decide. -/

/-- **part_count_bounds** : ⌈n/per⌉ ≤ parts ≤ ⌈n/(per-s)⌉ for a rule backing up at most `s` units -/
theorem C07_part_count_bounds (bnd : Boundary) (d : List Nat) (per s : Nat) (hs : s < per)
    (hb : BacksUpAtMost bnd d per s) :
    d.length ≤ (cutPoints bnd d per (d.length + 1) 0).length * per ∧
    (cutPoints bnd d per (d.length + 1) 0).length * (per - s) < d.length + (per - s) :=
  ⟨partition_lower per d.length _ 0 (cuts_partition bnd d per (by omega)),
   cutPoints_upper bnd d per s hs hb (d.length + 1) 0⟩

/-- **accepted_when_short_parts_suffice** : a message that fits 255 parts even if every part is cut
    `s` units short is never refused -/
theorem C07_accepted_when_short_parts_suffice (bnd : Boundary) (d : List Nat) (per s ref : Nat) (hs : s < per)
    (hb : BacksUpAtMost bnd d per s) (hn : d.length ≤ 255 * (per - s)) :
    ∃ parts, splitUnits bnd d per ref = .ok parts := by
  have h := (C07_part_count_bounds bnd d per s hs hb).2
  have hk : (cutPoints bnd d per (d.length + 1) 0).length < 256 := by
    apply Nat.lt_of_mul_lt_mul_right (a := per - s)
    omega
  have : ¬ (cutPoints bnd d per (d.length + 1) 0).length > 255 := by omega
  simp [splitUnits, this]

/-- **refused_when_full_parts_do_not_suffice** : a message longer than 255 full parts is refused,
    whatever the rule does -/
theorem C07_refused_when_full_parts_do_not_suffice (bnd : Boundary) (d : List Nat) (per ref : Nat) (hper : 0 < per)
    (hn : 255 * per < d.length) : splitUnits bnd d per ref = .error .tooManyParts := by
  apply C07_too_many_parts_refused
  have := partition_lower per d.length _ 0 (cuts_partition bnd d per hper)
  apply Nat.lt_of_mul_lt_mul_right (a := per)
  omega

/-- the four rules of `longsms.go` satisfy the hypothesis, for every content and capacity -/
theorem C07_rules_back_up (d : List Nat) (per : Nat) :
    BacksUpAtMost noBoundary d per 0 ∧ BacksUpAtMost gsmBoundary d per 1 ∧
    BacksUpAtMost ucs2Boundary d per 2 ∧ BacksUpAtMost gbBoundary d per 3 :=
  ⟨noBoundary_backs d per, gsmBoundary_backs d per, ucs2Boundary_backs d per, gbBoundary_backs d per⟩

/-- the refusal is decided by the length alone outside the window `255·(per-s) < n ≤ 255·per` -/
theorem refusal_window (bnd : Boundary) (d : List Nat) (per s ref : Nat) (hs : s < per)
    (hb : BacksUpAtMost bnd d per s) :
    (d.length ≤ 255 * (per - s) → ∃ parts, splitUnits bnd d per ref = .ok parts) ∧
    (255 * per < d.length → splitUnits bnd d per ref = .error .tooManyParts) :=
  ⟨C07_accepted_when_short_parts_suffice bnd d per s ref hs hb,
   C07_refused_when_full_parts_do_not_suffice bnd d per ref (by omega)⟩

/-- with the constants of the code (134 octets per part, a cut moves back at most 2): a UCS-2 message
    of up to 255·132 octets is always split, one beyond 255·134 always refused -/
theorem C07_refusal_window_ucs2 (d : List Nat) (ref : Nat) :
    (d.length ≤ 33660 → ∃ parts, splitUnits ucs2Boundary d 134 ref = .ok parts) ∧
    (34170 < d.length → splitUnits ucs2Boundary d 134 ref = .error .tooManyParts) :=
  refusal_window _ d 134 2 ref (by omega) (ucs2Boundary_backs d 134)

/-- GB18030 (134 octets per part, a cut moves back at most 3): always split up to 255·131 octets -/
theorem C07_refusal_window_gb18030 (d : List Nat) (ref : Nat) :
    (d.length ≤ 33405 → ∃ parts, splitUnits gbBoundary d 134 ref = .ok parts) ∧
    (34170 < d.length → splitUnits gbBoundary d 134 ref = .error .tooManyParts) :=
  refusal_window _ d 134 3 ref (by omega) (gbBoundary_backs d 134)

/-- GSM 7-bit (153 septets per part, a cut moves back at most 1): always split up to 255·152 septets,
    always refused beyond 255·153 -/
theorem C07_refusal_window_gsm (d : List Nat) (ref : Nat) :
    (d.length ≤ 38760 → ∃ parts, splitUnits gsmBoundary d 153 ref = .ok parts) ∧
    (39015 < d.length → splitUnits gsmBoundary d 153 ref = .error .tooManyParts) :=
  refusal_window _ d 153 1 ref (by omega) (gsmBoundary_backs d 153)

/-- the plain rule has no window: refused exactly beyond 255 full parts -/
theorem C07_refusal_plain (d : List Nat) (per ref : Nat) (hper : 0 < per) :
    (d.length ≤ 255 * per → ∃ parts, splitUnits noBoundary d per ref = .ok parts) ∧
    (255 * per < d.length → splitUnits noBoundary d per ref = .error .tooManyParts) :=
  refusal_window _ d per 0 ref hper (noBoundary_backs d per)

/-- the UCS-2 window with the capacity as the source spells it (`Gen.dc_SplitBy134`, regenerated on
    every run): if the constant changes, this obligation is re-proved against the new value or fails -/
theorem C07_refusal_window_ucs2_source (d : List Nat) (ref : Nat) :
    (d.length ≤ 255 * (Gen.dc_SplitBy134 - 2) → ∃ parts, splitUnits ucs2Boundary d Gen.dc_SplitBy134 ref = .ok parts) ∧
    (255 * Gen.dc_SplitBy134 < d.length → splitUnits ucs2Boundary d Gen.dc_SplitBy134 ref = .error .tooManyParts) :=
  refusal_window _ d _ 2 ref (by decide) (ucs2Boundary_backs d _)

/-- inside the window the naive count ⌈n/per⌉ is not the number of parts: three surrogate pairs,
    capacity 6 → three parts, not two -/
example : (cutPoints ucs2Boundary [0xD8, 0, 0xDC, 0, 0xD8, 0, 0xDC, 0, 0xD8, 0, 0xDC, 0] 6 13 0).length = 3 := by decide

/-- **parse_hdr6** : behind `05 00 03` the next three octets are reference, total and sequence
    number, the rest is the payload -/
theorem C07_parse_hdr6 (r t s : Nat) (payload : List Nat) :
    parseLong (0x05 :: 0x00 :: 0x03 :: r :: t :: s :: payload) = ⟨r, t, s, payload, true⟩ := by
  simp [parseLong]

/-- **parse_hdr7** : the 16-bit reference is `hi * 256 + lo` -/
theorem C07_parse_hdr7 (hi lo t s : Nat) (payload : List Nat) :
    parseLong (0x06 :: 0x08 :: 0x04 :: hi :: lo :: t :: s :: payload) = ⟨hi * 256 + lo, t, s, payload, true⟩ := by
  simp [parseLong]

/-- what a produced part parses back to -/
theorem C07_parse_part (ref total seq : Nat) (payload : List Nat) :
    parseLong (header ref total seq ++ payload) = ⟨ref % 256, total % 256, seq % 256, payload, true⟩ := by
  simp [header, parseLong]

/-- **parse_other** : anything that does not start with one of the two headers is "not concatenated"
    and is returned unchanged -/
theorem C07_parse_other (c : List Nat)
    (h6 : ¬ (6 ≤ c.length ∧ c.take 3 = [0x05, 0x00, 0x03]))
    (h7 : ¬ (7 ≤ c.length ∧ c.take 3 = [0x06, 0x08, 0x04])) :
    parseLong c = ⟨0, 0, 0, c, false⟩ := by
  unfold parseLong
  split
  · rfl
  · rename_i hlen
    split
    · exfalso; apply h6; simp
    · exfalso; apply h7; simp
    · rfl

example : parseLong [6, 8, 4, 1, 2, 3, 1, 0x61] = ⟨258, 3, 1, [0x61], true⟩ := by decide

/-! ### no more parts than filling each part as far as whole characters allow

For each coding the cut the code chooses is the *last* character boundary within the capacity:
no boundary lies strictly between the cut and `begin + capacity` (proved in Props/C14.lean beside
the soundness of the rules; the plain rule cuts at the capacity itself). -/

theorem C07_parts_filled_plain (d : List Nat) (b per : Nat) : noBoundary d b (b + per) = b + per := rfl

theorem C07_parts_filled_gsm (chars : List (List Nat)) (hseg : C14.GsmSeg chars) (per b : Nat)
    (hlt : b + per < chars.flatten.length) (q : Nat)
    (h1 : gsmBoundary chars.flatten b (b + per) < q) (h2 : q ≤ b + per) : ¬ IsBoundary chars q :=
  C14.C07_filled_gsm chars hseg per b hlt q h1 h2

theorem C07_parts_filled_ucs2 (chars : List (List Nat)) (hseg : C14.UcsSeg chars) (per : Nat) (heven : per % 2 = 0)
    (b : Nat) (hb : IsBoundary chars b) (hlt : b + per < chars.flatten.length) (q : Nat)
    (h1 : ucs2Boundary chars.flatten b (b + per) < q) (h2 : q ≤ b + per) : ¬ IsBoundary chars q :=
  C14.C07_filled_ucs2 chars hseg per heven b hb hlt q h1 h2

theorem C07_parts_filled_gb18030 (chars : List (List Nat)) (hseg : C14.GbSeg chars) (per : Nat) (hper : 4 ≤ per)
    (b : Nat) (hb : IsBoundary chars b) (hlt : b + per < chars.flatten.length) (q : Nat)
    (h1 : gbBoundary chars.flatten b (b + per) < q) (h2 : q ≤ b + per) : ¬ IsBoundary chars q :=
  C14.C07_filled_gb18030 chars hseg per hper b hb hlt q h1 h2

/-- the same for the texts the modelled encoders accept: no segmentation hypothesis left -/
theorem C07_parts_filled_ucs2_text (text out : List Nat) (h : Text.encodeAll Text.utf16 text = some out)
    (per : Nat) (heven : per % 2 = 0) (b : Nat) (hb : IsBoundary (C14.codeChars Text.utf16 text) b)
    (hlt : b + per < out.length) (q : Nat) (h1 : ucs2Boundary out b (b + per) < q) (h2 : q ≤ b + per) :
    ¬ IsBoundary (C14.codeChars Text.utf16 text) q := by
  obtain ⟨hall, rfl⟩ := (Text.encodeAll_eq_some_iff Text.utf16 text out).1 h
  exact C07_parts_filled_ucs2 _ (C14.utf16_chars_seg text hall) per heven b hb hlt q h1 h2

theorem C07_parts_filled_gsm_text (text s : List Nat) (h : Gsm7.encode C08.T text = some s) (per b : Nat)
    (hlt : b + per < s.length) (q : Nat) (h1 : gsmBoundary s b (b + per) < q) (h2 : q ≤ b + per) :
    ¬ IsBoundary (C14.gsmChars C08.T text) q := by
  obtain ⟨hseg, rfl⟩ := C14.gsm_chars_seg text s h
  exact C07_parts_filled_gsm _ hseg per b hlt q h1 h2

end SmsVerif.C07

section
open SmsVerif.C07
#print axioms C07_parts_filled_ucs2_text
#print axioms C07_parts_filled_gsm_text
#print axioms C07_part_sizes
#print axioms C07_header_fields
#print axioms C07_too_many_parts_refused
#print axioms cutPoints_plain_length
#print axioms C07_part_count_bounds
#print axioms C07_accepted_when_short_parts_suffice
#print axioms C07_refused_when_full_parts_do_not_suffice
#print axioms C07_rules_back_up
#print axioms C07_refusal_window_ucs2
#print axioms C07_refusal_window_gb18030
#print axioms C07_refusal_window_gsm
#print axioms C07_refusal_plain
#print axioms C07_refusal_window_ucs2_source
#print axioms C07_parse_hdr6
#print axioms C07_parse_hdr7
#print axioms C07_parse_part
#print axioms C07_parse_other
#print axioms C07_parts_filled_gsm
#print axioms C07_parts_filled_ucs2
#print axioms C07_parts_filled_gb18030
end
