/-
  C19 — SMPP validity-period strings denote exactly the requested time.

  Durations and instants are integers (nanoseconds).  Modelled, not proved: `time.ParseDuration`,
  the float arithmetic of `Duration.Hours()/Minutes()/Seconds()` (equal to integer division in the
  admitted range < 31 days, checked by correspondence at every unit boundary ± 1 ns) and
  `time.Format` (checked against `civilFromDays` by correspondence).
-/
import SmsVerif.Model.Validity
import SmsVerif.Lemmas.Decimal

namespace SmsVerif.C19
open SmsVerif SmsVerif.Validity

/-- **negative_refused / unparsable_refused / unrepresentable_refused** : an unparsable duration, a
    negative one, and in relative form one of 31 days or more is an error (the absolute form's
    refusal is `C19_absolute_year_refused`) -/
theorem C19_refusals (nowNs : Nat) (rel : Bool) :
    toValidatePeriod nowNs none rel = .error .unparsable ∧
    (∀ d : Int, d < 0 → toValidatePeriod nowNs (some d) rel = .error .negative) ∧
    (∀ d : Int, 0 ≤ d → 31 * 86400 * 1000000000 ≤ d → toValidatePeriod nowNs (some d) true = .error .tooLong) := by
  refine ⟨rfl, fun d hd => by simp [toValidatePeriod, hd], fun d h0 hd => ?_⟩
  have h1 : ¬ d < 0 := by omega
  have h2 : d.toNat ≥ 31 * secPerDay * nsPerSec := by
    simp only [secPerDay, nsPerSec]; omega
  simp [toValidatePeriod, h1, h2]

/-- days, hours, minutes and seconds are the digits of `s` in the mixed radix (24, 60, 60), so all four
    are zero only for zero seconds -/
theorem dhms_sum (s : Nat) : s / 86400 * 86400 + s / 3600 % 24 * 3600 + s / 60 % 60 * 60 + s % 60 = s := by omega

theorem relativeOfSeconds_denotes (s : Nat) (hs31 : s < 31 * 86400) :
    (relativeOfSeconds s = [] ∧ s = 0) ∨
    ((relativeOfSeconds s).length = 16 ∧ denoteRel (relativeOfSeconds s) = s ∧
      (relativeOfSeconds s).take 4 = [48, 48, 48, 48] ∧ (relativeOfSeconds s).drop 12 = [48, 48, 48, 82]) := by
  have L := decDigits_length
  have L0 : ([48, 48, 48, 48] : Bytes).length = 4 := rfl
  -- `secPerDay` stays folded until the cases are split: unfolded under the `if`, it would leave
  -- the condition's `Decidable` instance behind
  simp only [relativeOfSeconds]
  split
  · next z => exact .inl ⟨rfl, by rw [← dhms_sum s, show s / 86400 = 0 from z.1, z.2.1, z.2.2.1, z.2.2.2]⟩
  · refine .inr ⟨by simp [L], ?_, by simp, ?_⟩
    · simp only [denoteRel, secPerDay, List.append_assoc, drop_add_append (L 2 _), drop_add_append L0, List.drop_zero,
        List.take_left' (L 2 _)]
      simp (disch := omega) only [parseDec_decDigits]
      exact dhms_sum s
    · simp only [List.append_assoc, drop_add_append (L 2 _), drop_add_append L0, List.drop_zero]

/-- **relative_denotes** : for a non-negative duration below 31 days the relative string is either
    empty — exactly when the duration truncated to whole seconds is zero — or a 16-character SMPP
    time `0000DDhhmmss000R` denoting exactly the duration truncated to whole seconds. -/
theorem C19_relative_denotes (dn : Nat) (h : dn < 31 * 86400 * 1000000000) :
    (relative dn = [] ∧ dn / 1000000000 = 0) ∨
    ((relative dn).length = 16 ∧ denoteRel (relative dn) = dn / 1000000000 ∧
      (relative dn).take 4 = [48, 48, 48, 48] ∧ (relative dn).drop 12 = [48, 48, 48, 82]) :=
  relativeOfSeconds_denotes (dn / 1000000000) (by omega)

theorem findYear_le (fuel y z : Nat) (h : daysBeforeYear y ≤ z) : daysBeforeYear (findYear fuel y z) ≤ z := by
  fun_induction findYear fuel y z with
  | case1 => exact h
  | case2 _ _ _ h1 ih => exact ih h1
  | case3 => exact h

theorem findMonth_le (fuel y m r : Nat) (h : daysBeforeMonth y m ≤ r) :
    daysBeforeMonth y (findMonth fuel y m r) ≤ r := by
  fun_induction findMonth fuel y m r with
  | case1 => exact h
  | case2 _ _ _ _ h1 ih => exact ih h1.2
  | case3 => exact h

/-- the civil date computed for a day number denotes that day number.  This uses only that the year
    and the month found do not begin after `z`; that they are the last such, i.e. that the result is a
    date of the calendar (month ≤ 12, day within the month), is not claimed here. -/
theorem civil_left_inverse (z : Nat) :
    let (y, m, d) := civilFromDays z
    daysFromCivil y m d = z := by
  simp only [civilFromDays, daysFromCivil]
  have h1 : daysBeforeYear (findYear 400 1970 z) ≤ z := findYear_le 400 1970 z (by simp [daysBeforeYear])
  have h2 := findMonth_le 12 (findYear 400 1970 z) 1 (z - daysBeforeYear (findYear 400 1970 z)) (by simp [daysBeforeMonth])
  omega

theorem absoluteOfSeconds_denotes (s : Nat)
    (hy : 2000 ≤ (civilFromDays (s / 86400)).1 ∧ (civilFromDays (s / 86400)).1 ≤ 2099)
    (hm : (civilFromDays (s / 86400)).2.1 < 100) (hd : (civilFromDays (s / 86400)).2.2 < 100) :
    (absoluteOfSeconds s).length = 16 ∧ denoteAbs (absoluteOfSeconds s) = s ∧
    (absoluteOfSeconds s).drop 12 = [48, 48, 48, 43] := by
  have L := decDigits_length
  have hinv := civil_left_inverse (s / 86400)
  unfold absoluteOfSeconds
  simp only [secPerDay]
  generalize hc : civilFromDays (s / 86400) = c at *
  obtain ⟨y, m, d⟩ := c
  simp only at hy hm hd hinv ⊢
  refine ⟨by simp [L], ?_, ?_⟩
  · simp only [denoteAbs, secPerDay, List.append_assoc, drop_add_append (L 2 _), List.drop_zero,
      List.take_left' (L 2 _)]
    simp (disch := omega) only [parseDec_decDigits]
    have hyy : 2000 + y % 100 = y := by omega
    rw [hyy, hinv]
    omega
  · simp only [List.append_assoc, drop_add_append (L 2 _), List.drop_zero]

/-- **absolute_denotes** : when the target instant falls in 2000..2099 the absolute string is a
    16-character SMPP time `YYMMDDhhmmss000+` that denotes exactly the UTC instant now + duration,
    truncated to whole seconds.  `hm`, `hd`: that the calendar model's month and day print in two
    digits is assumed (sampled in the test below), and `denoteAbs` reads any month / day number, so
    "denotes" is as strong as the calendar model is right (`time.Format`, by correspondence). -/
theorem C19_absolute_denotes (t : Nat)
    (hy : 2000 ≤ (civilFromDays (t / 1000000000 / 86400)).1 ∧ (civilFromDays (t / 1000000000 / 86400)).1 ≤ 2099)
    (hm : (civilFromDays (t / 1000000000 / 86400)).2.1 < 100) (hd : (civilFromDays (t / 1000000000 / 86400)).2.2 < 100) :
    (absolute t).length = 16 ∧ denoteAbs (absolute t) = t / 1000000000 ∧ (absolute t).drop 12 = [48, 48, 48, 43] :=
  absoluteOfSeconds_denotes (t / 1000000000) hy hm hd

/-- years outside 2000..2099 are refused rather than wrapped to two digits -/
theorem C19_absolute_year_refused (nowNs : Nat) (d : Int) (h0 : 0 ≤ d)
    (hy : (civilFromDays ((nowNs + d.toNat) / 1000000000 / 86400)).1 < 2000 ∨
          2099 < (civilFromDays ((nowNs + d.toNat) / 1000000000 / 86400)).1) :
    toValidatePeriod nowNs (some d) false = .error .yearOutOfRange := by
  have h1 : ¬ d < 0 := by omega
  have hy' : (civilFromDays ((nowNs + d.toNat) / nsPerSec / secPerDay)).1 < 2000 ∨
      (civilFromDays ((nowNs + d.toNat) / nsPerSec / secPerDay)).1 > 2099 := by
    simpa [nsPerSec, secPerDay] using hy
  simp only [toValidatePeriod, h1, if_false, Bool.false_eq_true]
  rw [if_pos hy']

/-- the calendar facts the hypotheses of `C19_absolute_denotes` ask for hold on sampled days of every
    year 2000..2099 (a test, labelled as such; the unbounded part is `civil_left_inverse`) -/
example : (List.range 100).all (fun i =>
    let z := daysFromCivil (2000 + i) 1 1 + 58 + i
    let c := civilFromDays z
    c.1 == 2000 + i && c.2.1 ≥ 1 && c.2.1 ≤ 12 && c.2.2 ≥ 1 && c.2.2 ≤ 31) = true := by decide +kernel

example : relative (90061 * 1000000000) = "000001010101000R".toList.map Char.toNat := by decide +kernel

end SmsVerif.C19

section
open SmsVerif.C19
#print axioms C19_refusals
#print axioms C19_relative_denotes
#print axioms civil_left_inverse
#print axioms C19_absolute_denotes
#print axioms C19_absolute_year_refused
end
