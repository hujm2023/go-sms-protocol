/-
  C03 — decoding untrusted bytes never panics, hangs or over-allocates; an input that ends
  before the mandatory part is complete is an error.

  The theorems range over every byte string and every PDU type the translator finds except the two with
  a conditional body (`conditional_types`; `C03_truncated_mandatory_is_error` leaves out the four types of
  `C11.notCovered`, these two among them).  The decoder model is a total function whose only outcomes
  are a PDU or an error: termination is accepted by the kernel, the optional-parameter loops by a fuel
  that the input length bounds.  A read never requests octets it has not seen (`RdStep.alloc` of every
  primitive, Lemmas/Packet.lean); of the two statement kinds that size a request from an unchecked field,
  the slots of a list are bounded by the width of the count field (255), the buffer of an
  optional-parameter value by the input left to read plus one octet.  The per-run obligations are the
  `decide` lines over the regenerated layouts.
-/
import SmsVerif.Lemmas.DecodeRun
import SmsVerif.Props.C11

namespace SmsVerif.C03
open SmsVerif

def fieldMax (fields : List (String × FTy)) (f : String) : Nat :=
  match fields.lookup f with
  | some (.u k) => 256 ^ k - 1
  | _ => 0

/-- static upper bound of a count / length expression over integer fields -/
def exprBound (fields : List (String × FTy)) : Expr → Option Nat
  | .lit n => some n
  | .fld f => some (fieldMax fields f)
  | .lenOf _ => none
  | .add a b => match exprBound fields a, exprBound fields b with
    | some x, some y => some (x + y) | _, _ => none
  | .mul a b => match exprBound fields a, exprBound fields b with
    | some x, some y => some (x * y) | _, _ => none
  | .conv _ e => exprBound fields e

/-- a decode statement the bounds below understand -/
def opOK (fields : List (String × FTy)) : DecOp → Bool
  | .num k f => match fields.lookup f with
    | some (.u k') => decide (k ≤ k')
    | _ => false
  | .repMake _ c _ => (exprBound fields c).isSome
  | .unsupported _ => false
  | .stopIfAbsent _ => false     -- an early successful return: such layouts are outside the bounds below (see `conditional`)
  | _ => true

/-- what a statement may request from the allocator beyond the octets it consumes -/
def opOver (fields : List (String × FTy)) : DecOp → Nat
  | .repMake _ c _ => (exprBound fields c).getD 0    -- `make([]string, count)`: one slot per declared entry
  | .tlvsRead _ => 1                                 -- the value buffer is bounded by the input left to read (+1 on the failing path)
  | _ => 0

/-- octets a statement must consume when it completes without a reader error -/
def opMin : DecOp → Nat
  | .num k _ => k
  | .cstr _ => 1
  | .fixedTrim _ n => n
  | .fixedRaw _ n => n
  | .fixedRawHex _ n => n
  | _ => 0

def overSum (fields : List (String × FTy)) (ops : List DecOp) : Nat := (ops.map (opOver fields)).sum
def minSum (ops : List DecOp) : Nat := (ops.map opMin).sum

/-- the fixed-width mandatory part of a PDU type: what every accepted image must at least contain -/
def mandatoryMin (p : PduDesc) : Nat := minSum p.dec
/-- the constant of "proportional to the input" for a PDU type -/
def allocConst (p : PduDesc) : Nat := overSum p.fields p.dec

def WT (fields : List (String × FTy)) (r : Rec) : Prop := ∀ f, r.num f ≤ fieldMax fields f

theorem WT.set {fields : List (String × FTy)} {r : Rec} (h : WT fields r) (f : String) (v : Val)
    (hv : ∀ n, v = .num n → n ≤ fieldMax fields f) : WT fields (r.set f v) := by
  intro g
  unfold Rec.num
  rw [Rec.get?_set]
  by_cases hg : g = f
  · rw [if_pos hg, hg]
    cases v with
    | num n => exact hv n rfl
    | _ => exact Nat.zero_le _
  · rw [if_neg hg]; exact h g

theorem fresh_WT (p : PduDesc) : WT p.fields p.fresh := by
  intro f
  unfold Rec.num
  rcases fresh_get? p f with h | ⟨t, h⟩ <;> rw [h]
  · exact Nat.zero_le _
  · cases t <;> exact Nat.zero_le _

theorem exprBound_sound {fields : List (String × FTy)} {r : Rec} (h : WT fields r) (e : Expr) (b : Nat)
    (hb : exprBound fields e = some b) : e.eval r ≤ b := by
  fun_induction exprBound fields e generalizing b with
  | case1 n => cases hb; exact Nat.le_refl _
  | case2 f => cases hb; exact h f
  | case4 x y bx by' hy hx ihx ihy => cases hb; exact Nat.add_le_add (ihx bx hx) (ihy by' hy)
  | case6 x y bx by' hy hx ihx ihy => cases hb; exact Nat.mul_le_mul (ihx bx hx) (ihy by' hy)
  | case8 k e ih => exact Nat.le_trans (Nat.mod_le _ _) (ih b hb)
  | case3 | case5 | case7 => cases hb

theorem opMin_le_reads (op : DecOp) (st : DecState) : opMin op ≤ op.reads st := by
  cases op <;> first | exact Nat.le_refl _ | exact Nat.zero_le _ | exact Nat.le_add_left 1 _

theorem over_le_opOver {fields : List (String × FTy)} {r : Rec} (h : WT fields r) {op : DecOp}
    (hok : opOK fields op = true) : op.over r ≤ opOver fields op := by
  cases op <;> try exact Nat.le_refl _
  -- `make([]string, count)`: the count is an integer field, bounded by its width
  obtain ⟨b, hb⟩ := Option.isSome_iff_exists.1 hok
  simpa [opOver, hb, DecOp.over] using exprBound_sound h _ b hb

structure Good (fields : List (String × FTy)) (st : DecState) : Prop where
  wt : WT fields st.r
  oct : ∀ x ∈ st.rd.rest, x < 256

theorem op_step (fields : List (String × FTy)) (op : DecOp) (hok : opOK fields op = true) (st : DecState)
    (hg : Good fields st) :
    ∃ st', op.run st = .ok st' ∧ Good fields st' ∧ RdStep st.rd st'.rd (opOver fields op) (opMin op) := by
  obtain ⟨st', h, hwt⟩ : ∃ st', op.run st = .ok st' ∧ WT fields st'.r := by
    cases op with
    | guard n => exact ⟨_, rfl, hg.wt⟩
    | num k f =>
      -- an integer is read at no more than the width of its field
      refine ⟨_, rfl, hg.wt.set f (.num (st.rd.readNum k).1) fun n e => ?_⟩
      cases e
      simp only [opOK] at hok
      unfold fieldMax
      split at hok
      · exact Nat.le_sub_one_of_lt (Nat.lt_of_lt_of_le (readNum_lt st.rd k hg.oct)
          (Nat.pow_le_pow_right (by omega) (of_decide_eq_true hok)))
      · cases hok
    | cstr f | fixedTrim f n | fixedRaw f n | fixedRawHex f n | bytesN f l | repMake f c n | repAppend f c n
    | tlvsRead f => exact ⟨_, rfl, hg.wt.set f _ nofun⟩
    | optsParse f => simp only [DecOp.run]; split <;> exact ⟨_, rfl, hg.wt.set f _ nofun⟩
    | stopIfAbsent f | unsupported pos => cases hok
  have hs := DecOp.run_rdStep h
  exact ⟨st', h, ⟨hwt, fun x hx => hg.oct x (hs.sub x hx)⟩,
    hs.weaken (over_le_opOver hg.wt hok) (opMin_le_reads op st)⟩

/-- every decode statement of every PDU type is one the bounds understand (in particular: the
    translator met no statement outside its closed set), integer fields are read at their width -/
def layoutOK (p : PduDesc) : Bool :=
  p.dec.all (opOK p.fields)
  && decide (allocConst p ≤ 1 + 255)
  && (p.ret != .nilAlways || decide (mandatoryMin p ≤ guardOf p.dec))

/-- PDU types whose body is conditional (SMPP 3.4: a response with a non-zero command_status has no body, the
    decoder returns early): the theorems below are stated for the other types; these are covered by the
    correspondence run (every truncation point, allocation measured) only -/
def conditional (p : PduDesc) : Bool := p.dec.any DecOp.isStop

theorem conditional_types : (Gen.allPdus.filter conditional).map (·.name) = ["smpp34.BindResp", "smpp34.SubmitSmResp"] := by
  decide +kernel

theorem layouts_bounded : (Gen.allPdus.filter (fun p => !conditional p)).all layoutOK = true := by decide +kernel

theorem bounded_run {p : PduDesc} (hp : p ∈ Gen.allPdus) (hc : conditional p = false) {data : Bytes}
    (hoct : ∀ x ∈ data, x < 256) :
    ∃ st, runDec p.dec { r := p.fresh, rd := ⟨data, none, 0⟩ } = .ok st ∧
      RdStep ⟨data, none, 0⟩ st.rd (allocConst p) (mandatoryMin p) ∧ allocConst p ≤ 1 + 255 ∧
      (p.ret ≠ .nilAlways ∨ mandatoryMin p ≤ guardOf p.dec) := by
  have h := List.all_eq_true.1 layouts_bounded p (List.mem_filter.2 ⟨hp, by rw [hc]; rfl⟩)
  simp only [layoutOK, Bool.and_eq_true, Bool.or_eq_true, decide_eq_true_eq, bne_iff_ne, ne_eq] at h
  obtain ⟨st, hr, _, hs⟩ := runDec_rdStep p.dec
    (fun d hd => op_step p.fields d (List.all_eq_true.1 h.1.1 d hd)) ⟨p.fresh, ⟨data, none, 0⟩, false⟩ ⟨fresh_WT p, hoct⟩
  exact ⟨st, hr, hs, h.1.2, h.2⟩

/-- **C03_no_panic**: on every byte string every PDU decoder returns a PDU or an error —
    nothing else (no panic, no statement the model does not understand), and it terminates. -/
theorem C03_no_panic (p : PduDesc) (hp : p ∈ Gen.allPdus) (hc : conditional p = false) (data : Bytes)
    (hoct : ∀ x ∈ data, x < 256) :
    p.decode data = .err ∨ ∃ r, p.decode data = .ok r := by
  obtain ⟨st, hr, _⟩ := bounded_run hp hc hoct
  exact (decodeInto_run hr).2.imp_right fun h => ⟨_, h.1⟩

/-- **C03_alloc_proportional**: what a decoder requests from the allocator is at most the
    input length plus a small constant (255 destination slots, one octet on the failing path of an
    optional-parameter value): a length field is never trusted before the octets it announces have
    been seen. -/
theorem C03_alloc_proportional (p : PduDesc) (hp : p ∈ Gen.allPdus) (hcond : conditional p = false) (data : Bytes)
    (hoct : ∀ x ∈ data, x < 256) : p.decodeAlloc data ≤ data.length + 256 := by
  obtain ⟨st, hr, hs, hc, _⟩ := bounded_run hp hcond hoct
  refine Nat.le_trans (decodeInto_run hr).1 ?_
  have := hs.alloc
  simp only at this
  omega

/-- **C03_truncated_is_error**: a decode that reports success was given at least the
    fixed-width mandatory part of its PDU type: an input that ends earlier is an error. -/
theorem C03_truncated_is_error (p : PduDesc) (hp : p ∈ Gen.allPdus) (hcond : conditional p = false) (data : Bytes)
    (hoct : ∀ x ∈ data, x < 256) (r : Rec) (hdec : p.decode data = .ok r) :
    mandatoryMin p ≤ data.length := by
  obtain ⟨st, hr, hs, _, hnil⟩ := bounded_run hp hcond hoct
  rcases (decodeInto_run hr).2 with h | ⟨_, hg, he⟩
  · cases h.symm.trans hdec
  · -- the decoder returns the reader's error, so none was recorded; or its guard covers the mandatory part
    rcases hnil with hnil | hnil
    · exact Nat.le_trans (Nat.le_add_left ..) (hs.cons (he hnil))
    · exact Nat.le_trans hnil hg

/-- **C03_truncated_mandatory_is_error**: at full strength for the decoders that report reader
    errors (all but the three header-only types covered by `C03_truncated_is_error`, and the four types
    of `C11.notCovered`): if decoding reports success, the input contained every octet of every
    mandatory field *as the decoded PDU describes it* — each C-string with its terminator, each body
    as long as its length field says, each list entry its count field announces (`wireSum`), plus the
    length word.  Cutting a PDU anywhere inside its mandatory part therefore gives an error. -/
theorem C03_truncated_mandatory_is_error (p : PduDesc) (hp : p ∈ Gen.allPdus)
    (hx : C11.notCovered.contains p.name = false) (hret : p.ret ≠ .nilAlways)
    (data : Bytes) (hoct : ∀ x ∈ data, x < 256) (r : Rec) (hdec : p.decode data = .ok r) :
    ∃ lf its, p.items = some (lf, its) ∧
      wireSum r its + (if p.fin = .withLength then 4 else 0) ≤ data.length := by
  obtain ⟨lf, its, hits, _, hc⟩ := C11.accepted_fits hp hx hoct hdec
  exact ⟨lf, its, hits, hc hret⟩

/-- `readExactly` (`packet/reader.go`), the one place where `ReadCStringN`, `ReadCStringNWithoutTrim` and
    `ReadNBytes` allocate: the octets requested from the allocator so far plus the octets still buffered
    do not grow. -/
theorem read_never_requests_unseen (r : Reader) (n : Nat) (he : r.err = none) :
    (r.readExact n).2.alloc + (r.readExact n).2.rest.length ≤ r.alloc + r.rest.length := by
  -- `he` is not needed: `readExact` does not look at the recorded error
  exact (fun _ => (readExact_step r n).alloc) he

/-- the mandatory minimum is a real quantity: e.g. a CMPP 2.0 submit has 126 fixed octets before
    its variable part, and its 12-octet header alone is rejected -/
example : mandatoryMin Gen.cmpp20_PduSubmit = 126 + 12 := by decide +kernel
example : (match Gen.cmpp20_PduSubmit.decode (be 4 12 ++ be 4 4 ++ be 4 1) with | .err => true | _ => false) = true := by
  decide +kernel
/-- both parts of the constant occur: a type with a list (255 slots for a count octet of 255), a type
    with optional parameters (one octet) -/
example : Gen.allPdus.any (fun p => allocConst p == 255) = true := by decide +kernel
example : Gen.allPdus.any (fun p => allocConst p == 1) = true := by decide +kernel

end SmsVerif.C03

#print axioms SmsVerif.C03.C03_no_panic
#print axioms SmsVerif.C03.C03_alloc_proportional
#print axioms SmsVerif.C03.C03_truncated_is_error
#print axioms SmsVerif.C03.C03_truncated_mandatory_is_error
#print axioms SmsVerif.C03.read_never_requests_unseen
#print axioms SmsVerif.C03.layouts_bounded
#print axioms SmsVerif.C03.conditional_types
