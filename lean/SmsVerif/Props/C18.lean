/-
  C18 — delivery-receipt extraction recovers every field regardless of order.

  Two layers.  The `…_partial` theorems speak of any text in which the first occurrence of a key
  token is where a field starts, whatever precedes and follows.  The full-strength theorems
  discharge that hypothesis for well-formed receipts (distinct standard keys in any order and
  subset, space- and token-free values) through `occ_is_field` (Lemmas/Receipt.lean) and are
  otherwise instances of the partial ones; they are proved for any key set satisfying `KeysOK`
  (`smpp_receipt`, `smgp_receipt`, `smgp_id`), of which the two standard families are instances.
  The CMPP binary status-report body is a C01 instance.
-/
import SmsVerif.Lemmas.Receipt
import SmsVerif.Props.C01

namespace SmsVerif.C18
open SmsVerif SmsVerif.Receipt

theorem value_at (pre key v rest : Bytes) (hv : ∀ c ∈ v, c ≠ 32) (hr : rest = [] ∨ rest.head? = some 32) :
    untilSpace ((pre ++ key ++ [58] ++ v ++ rest).drop (pre.length + key.length + 1)) = v := by
  rw [List.append_assoc _ v rest, List.drop_left' (by simp; omega)]
  exact untilSpace_append v rest hv hr

/-- **find_value (SMPP)**, partial: if the first occurrence of `key:` is the field occurrence, the
    value returned is exactly the characters up to the next space or the end of the text -/
theorem C18_find_value_smpp_partial (pre key v rest : Bytes)
    (hfirst : indexOf (pre ++ key ++ [58] ++ v ++ rest) (key ++ [58]) = some pre.length)
    (hv : ∀ c ∈ v, c ≠ 32) (hr : rest = [] ∨ rest.head? = some 32) :
    findSmpp (pre ++ key ++ [58] ++ v ++ rest) key = v := by
  unfold findSmpp
  rw [hfirst]
  exact value_at pre key v rest hv hr

/-- **absent_key_empty** : a key whose token (in either spelling) does not occur gives the empty string -/
theorem C18_absent_key_empty (s key backup : Bytes) (w : Nat)
    (h1 : indexOf s (key ++ [58]) = none) (h2 : indexOf s (backup ++ [58]) = none) :
    findSmpp s key = [] ∧ findSmgp s key backup w = [] := by
  simp [findSmpp, findSmgp, h1, h2]

/-- **find_value (SMGP)**, partial: either spelling; the value is cut to the field's width -/
theorem C18_find_value_smgp_partial (pre key backup v rest : Bytes) (w : Nat) (usedKey : Bytes)
    (hsp : (usedKey = key ∧ indexOf (pre ++ usedKey ++ [58] ++ v ++ rest) (key ++ [58]) = some pre.length) ∨
           (usedKey = backup ∧ backup ≠ [] ∧ indexOf (pre ++ usedKey ++ [58] ++ v ++ rest) (key ++ [58]) = none ∧
            indexOf (pre ++ usedKey ++ [58] ++ v ++ rest) (backup ++ [58]) = some pre.length))
    (hv : ∀ c ∈ v, c ≠ 32) (hr : rest = [] ∨ rest.head? = some 32) :
    findSmgp (pre ++ usedKey ++ [58] ++ v ++ rest) key backup w = truncate w v := by
  have hval := congrArg (truncate w) (value_at pre usedKey v rest hv hr)
  unfold findSmgp
  rcases hsp with ⟨rfl, h⟩ | ⟨rfl, hne, h1, h2⟩
  · rw [h]; exact hval
  · rw [h1, h2, if_neg (by simpa using hne)]; exact hval

/-- the width cut keeps a prefix of at most `w` characters -/
theorem C18_truncate_spec (w : Nat) (v : Bytes) (hw : 0 < w) :
    truncate w v = v.take w ∧ (truncate w v).length ≤ w := by
  unfold truncate
  split
  · rename_i h; exact ⟨rfl, by simp; omega⟩
  · rename_i h
    have : v.length ≤ w := by omega
    exact ⟨(List.take_of_length_le this).symm, this⟩

/-- **SMGP id**: the hex form of exactly the ten octets after the first `id:` (any octets, spaces and
    NULs included) -/
theorem C18_smgp_id_partial (pre id rest : Bytes) (hid : id.length = 10)
    (hfirst : indexOf (pre ++ [105, 100, 58] ++ id ++ rest) [105, 100, 58] = some pre.length) :
    findSmgpId (pre ++ [105, 100, 58] ++ id ++ rest) = hexEncode id := by
  unfold findSmgpId
  rw [hfirst]
  dsimp only
  rw [if_pos (by simp; omega), List.append_assoc _ id rest, List.drop_left' (by simp), List.take_left' hid]

theorem smpp_receipt (K : List Bytes) (hK : KeysOK K) (fs : List (Bytes × Bytes))
    (hf : ∀ f ∈ fs, f.1 ∈ K ∧ TokenFree K f.2) (hnd : (fs.map (·.1)).Nodup) :
    (∀ j (hj : j < fs.length), findSmpp (render fs) fs[j].1 = fs[j].2) ∧
    (∀ k ∈ K, k ∉ fs.map (·.1) → findSmpp (render fs) k = []) := by
  have hf' : ∀ f ∈ fs, f.1 ∈ K ∧ NoToken K f.2 := fun f hm => ⟨(hf f hm).1, (hf f hm).2.2⟩
  constructor
  · intro j hj
    obtain ⟨pre, post, e, hpost, hfirst⟩ := field_at K hK fs hf' hnd j hj
    rw [e] at hfirst ⊢
    exact C18_find_value_smpp_partial pre _ _ post hfirst
      (fun c hc h32 => (hf _ (List.getElem_mem hj)).2.1 (h32 ▸ hc)) hpost
  · intro k hk habs
    simp [findSmpp, indexOf_absent K hK fs hf' k hk habs]

theorem smgp_receipt (K : List Bytes) (hK : KeysOK K) (fs : List (Bytes × Bytes))
    (hf : ∀ f ∈ fs, f.1 ∈ K ∧ NoToken K f.2) (hnd : (fs.map (·.1)).Nodup)
    (j : Nat) (hj : j < fs.length) (hsp : 32 ∉ fs[j].2) (primary backup : Bytes) (w : Nat) (hp : primary ∈ K)
    (huse : fs[j].1 = primary ∨ (fs[j].1 = backup ∧ backup ≠ [] ∧ primary ∉ fs.map (·.1))) :
    findSmgp (render fs) primary backup w = truncate w fs[j].2 := by
  obtain ⟨pre, post, e, hpost, hfirst⟩ := field_at K hK fs hf hnd j hj
  have habs := indexOf_absent K hK fs hf primary hp
  rw [e] at hfirst habs ⊢
  refine C18_find_value_smgp_partial pre primary backup _ post w fs[j].1 ?_ (fun c hc h32 => hsp (h32 ▸ hc)) hpost
  rcases huse with h1 | ⟨h1, hne, h⟩
  · exact Or.inl ⟨h1, h1 ▸ hfirst⟩
  · exact Or.inr ⟨h1, hne, habs h, h1 ▸ hfirst⟩

theorem smgp_id (K : List Bytes) (hK : KeysOK K) (fs : List (Bytes × Bytes))
    (hf : ∀ f ∈ fs, f.1 ∈ K ∧ NoToken K f.2) (hnd : (fs.map (·.1)).Nodup)
    (j : Nat) (hj : j < fs.length) (hid : fs[j].1 = [105, 100]) (hlen : fs[j].2.length = 10) :
    findSmgpId (render fs) = hexEncode fs[j].2 := by
  obtain ⟨pre, post, e, _, hfirst⟩ := field_at K hK fs hf hnd j hj
  rw [hid] at e hfirst
  rw [List.append_assoc pre] at e
  rw [e] at hfirst ⊢
  exact C18_smgp_id_partial pre _ post hlen hfirst

def str' (s : String) : Bytes := s.toList.map Char.toNat

/-- the eight keys of an SMPP receipt (Appendix B of the SMPP 3.4 document) -/
def smppKeys : List Bytes :=
  [str' "id", str' "sub", str' "dlvrd", str' "submit date", str' "done date", str' "stat", str' "err", str' "text"]

/-- the keys of an SMGP receipt, both spellings the extractor accepts -/
def smgpKeys : List Bytes :=
  [str' "id", str' "sub", str' "dlvrd", str' "submit date", str' "done date", str' "stat", str' "err", str' "text",
   str' "Sub", str' "Dlvrd", str' "Submit_Date", str' "Done_Date", str' "Stat", str' "Err", str' "Text"]

theorem smgpKeysOK : KeysOK smgpKeys := ⟨by decide +kernel, by decide +kernel, by decide +kernel, by decide +kernel⟩

/-- the SMPP keys are the first eight SMGP keys -/
theorem smppKeysOK : KeysOK smppKeys :=
  smgpKeysOK.mono fun _ hk => List.mem_append_left [_, _, _, _, _, _, _] hk

/-- **C18_smpp_receipt** (full strength): for every receipt made of distinct standard keys in any
    order, any subset, with space-free values that contain no key token, the extractor returns
    exactly each field's value, and the empty string for every absent key -/
theorem C18_smpp_receipt (fs : List (Bytes × Bytes))
    (hf : ∀ f ∈ fs, f.1 ∈ smppKeys ∧ TokenFree smppKeys f.2) (hnd : (fs.map (·.1)).Nodup) :
    (∀ j (hj : j < fs.length), findSmpp (render fs) fs[j].1 = fs[j].2) ∧
    (∀ k ∈ smppKeys, k ∉ fs.map (·.1) → findSmpp (render fs) k = []) :=
  smpp_receipt smppKeys smppKeysOK fs hf hnd

/-- **C18_smgp_receipt** (full strength): either spelling of a key, value cut to the field width;
    `id` is the hex form of the ten octets after its token, whatever they are -/
theorem C18_smgp_receipt (fs : List (Bytes × Bytes))
    (hf : ∀ f ∈ fs, f.1 ∈ smgpKeys ∧ NoToken smgpKeys f.2) (hnd : (fs.map (·.1)).Nodup)
    (j : Nat) (hj : j < fs.length) (hsp : 32 ∉ fs[j].2) (primary backup : Bytes) (w : Nat)
    (hp : primary ∈ smgpKeys)
    (huse : fs[j].1 = primary ∨ (fs[j].1 = backup ∧ backup ≠ [] ∧ primary ∉ fs.map (·.1))) :
    findSmgp (render fs) primary backup w = truncate w fs[j].2 :=
  smgp_receipt smgpKeys smgpKeysOK fs hf hnd j hj hsp primary backup w hp huse

/-- SMGP `id`: the ten octets after the token, as hex, in any position of a well-formed receipt -/
theorem C18_smgp_id (fs : List (Bytes × Bytes))
    (hf : ∀ f ∈ fs, f.1 ∈ smgpKeys ∧ NoToken smgpKeys f.2) (hnd : (fs.map (·.1)).Nodup)
    (j : Nat) (hj : j < fs.length) (hid : fs[j].1 = str' "id") (hlen : fs[j].2.length = 10) :
    findSmgpId (render fs) = hexEncode fs[j].2 :=
  smgp_id smgpKeys smgpKeysOK fs hf hnd j hj hid hlen

/-- the CMPP binary status-report body round-trips (instance of C01) -/
theorem C18_cmpp_report_roundtrip : C01.RoundTrips Gen.cmpp_SubPduDeliveryContent :=
  C01.C01_roundtrip _ (by simp [Gen.allPdus]) (by decide)

def str (s : String) : Bytes := s.toList.map Char.toNat

example : findSmpp (str "id:0123456789 sub:001 dlvrd:001 submit date:2401161242 done date:2401161243 stat:DELIVRD err:000 text:hi")
    (str "stat") = str "DELIVRD" := by decide +kernel

end SmsVerif.C18

section
open SmsVerif.C18
#print axioms C18_find_value_smpp_partial
#print axioms C18_absent_key_empty
#print axioms C18_find_value_smgp_partial
#print axioms C18_truncate_spec
#print axioms C18_smgp_id_partial
#print axioms C18_cmpp_report_roundtrip
#print axioms C18_smpp_receipt
#print axioms C18_smgp_receipt
#print axioms C18_smgp_id
end
