/-
  C01 — the exception lists of Props/C01.lean are not slack: the checkers reject every excluded layout, and
  for the reason recorded.  What is shown is a fact about the (sound, not complete) checkers, not the
  negation of `RoundTrips`; that the round trip itself fails on the open findings (entries of
  known-findings.json) is reported by the correspondence run.  The first two theorems hold only while those
  defects are present, the third while the two SMPP decoders have their early return; the check builds this
  module separately and a failure here is not an alarm.
-/
import SmsVerif.Props.C01

namespace SmsVerif.C01
open SmsVerif

/-- the excluded authenticator is not aligned as a raw 16-octet item -/
theorem C01_loginresp_refuted : binaryOK ("smgp30.LoginResp", "AuthenticatorServer") = false := by decide +kernel

/-- for the two SMGP types the statements do align into items, the checker rejects the layout, and
    the message id is a non-inverse pair (written raw, read back as hex digits) -/
theorem C01_smgp_msgid_refuted :
    (Gen.allPdus.filter (fun p => ["smgp30.Deliver", "smgp30.SubmitResp"].contains p.name)).all
      (fun p => !p.checkRoundTrip &&
        match p.items with
        | some (_, its) => its.any (fun | .fixedHexOut "MsgID" 10 => true | _ => false)
        | none => false) = true := by decide +kernel

/-- the two SMPP response types are outside the reflective theorem only because their decoder has the
    conditional stop (`stopIfAbsent`, no finding: SMPP 3.4 asks for it): the checker rejects them, and
    accepts them with the stop filtered out -/
theorem C01_smpp_conditional_refuted :
    (Gen.allPdus.filter (fun p => ["smpp34.BindResp", "smpp34.SubmitSmResp"].contains p.name)).all
      (fun p => !p.checkRoundTrip && p.dec.any DecOp.isStop &&
        ({ p with dec := p.dec.filter (fun d => !d.isStop) } : PduDesc).checkRoundTrip) = true := by decide +kernel

/-- the names of the two theorems above are all there is in the exception list -/
theorem C01_exceptions_accounted :
    exceptions = ["smgp30.Deliver", "smgp30.SubmitResp"] ++ ["smpp34.BindResp", "smpp34.SubmitSmResp"] := rfl

end SmsVerif.C01

section
open SmsVerif.C01
#print axioms C01_loginresp_refuted
#print axioms C01_smgp_msgid_refuted
#print axioms C01_smpp_conditional_refuted
#print axioms C01_exceptions_accounted
end
