/-
  C04 — stream framing returns exactly the frames sent, under any arrival pattern.

  The notion everything rests on is `Framed`, a buffer read as frames.  Every buffer has such a reading
  (`exists_framed`) and `extractAll` returns it (`Framed.extract`), so it is unique; readings compose
  over `++` (`Framed.append`), which is why cutting an arrival in two changes nothing (`arrive_arrive`).
  The blocking extractor answers as the non-blocking one does on the same octets (`decodeBlocked_eq`),
  so draining a stream with it yields what `extractAll` cuts from the same octets (`okFrames_blockedAll`).
-/
import SmsVerif.Model.Framing

namespace SmsVerif.C04
open SmsVerif SmsVerif.Framing

/-- a frame as the protocols define it: at least the 4-octet prefix, which holds the total length -/
def ValidFrame (f : Bytes) : Prop := 4 ≤ f.length ∧ fromBe (f.take 4) = f.length

def Pending (t : Bytes) : Prop := decodeNB t = .incomplete

theorem decodeNB_frame (f rest : Bytes) (hv : ValidFrame f) : decodeNB (f ++ rest) = .frame f rest := by
  obtain ⟨h4, hn⟩ := hv
  have h1 : ¬ (f ++ rest).length < 4 := by rw [List.length_append]; omega
  have h3 : ¬ (f ++ rest).length < f.length := by rw [List.length_append]; omega
  simp only [decodeNB, h1, if_false, List.take_append_of_le_length h4, hn, Nat.not_lt.2 h4, h3,
    List.take_left' rfl, List.drop_left' rfl]

/-- **C04_nb_frame_complete** : what the non-blocking extractor returns is always a complete frame:
    exactly the first `n` buffered octets, `n ≥ 4` being the prefix value, and exactly those are consumed -/
theorem C04_nb_frame_complete (buf f rest : Bytes) (h : decodeNB buf = .frame f rest) :
    buf = f ++ rest ∧ 4 ≤ f.length ∧ fromBe (f.take 4) = f.length := by
  unfold decodeNB at h
  split at h
  · cases h
  · dsimp only at h
    split at h
    · cases h
    · split at h
      · cases h
      · obtain ⟨rfl, rfl⟩ := NB.frame.inj h
        have hl : (buf.take (fromBe (buf.take 4))).length = fromBe (buf.take 4) := by
          rw [List.length_take]; omega
        refine ⟨(List.take_append_drop _ _).symm, by omega, ?_⟩
        rw [List.take_take, hl, Nat.min_eq_left (by omega)]

theorem decodeNB_invalid_iff (b : Bytes) : decodeNB b = .invalid ↔ 4 ≤ b.length ∧ fromBe (b.take 4) < 4 := by
  unfold decodeNB
  split
  · simp; omega
  · dsimp only
    split
    · simp; omega
    · split <;> simp <;> omega

theorem decodeNB_incomplete_iff (b : Bytes) :
    decodeNB b = .incomplete ↔ b.length < 4 ∨ b.length < fromBe (b.take 4) := by
  unfold decodeNB
  split
  · simp; omega
  · dsimp only
    split
    · simp; omega
    · split <;> simp <;> omega

theorem prefix_pending (f : Bytes) (hv : ValidFrame f) (k : Nat) (hk : k < f.length) : Pending (f.take k) := by
  refine (decodeNB_incomplete_iff _).2 ?_
  rw [List.length_take, List.take_take, Nat.min_eq_left (Nat.le_of_lt hk)]
  by_cases h : k < 4
  · exact Or.inl h
  · rw [Nat.min_eq_left (Nat.not_lt.1 h), hv.2]
    exact Or.inr hk

theorem decodeNB_invalid_append (b x : Bytes) (h : decodeNB b = .invalid) : decodeNB (b ++ x) = .invalid := by
  obtain ⟨h4, hn⟩ := (decodeNB_invalid_iff b).1 h
  exact (decodeNB_invalid_iff _).2 ⟨by rw [List.length_append]; omega, by rwa [List.take_append_of_le_length h4]⟩

/-- `b` read as frames: the valid frames `fs`, then a rest `r` at which the extractor stops, because
    it has to wait (`bad = false`) or because it refuses the prefix (`bad = true`) -/
structure Framed (b : Bytes) (fs : List Bytes) (r : Bytes) (bad : Bool) : Prop where
  eq : b = fs.flatten ++ r
  valid : ∀ f ∈ fs, ValidFrame f
  stop : decodeNB r = if bad then .invalid else .incomplete

/-- the fuel the driver uses (buffer length + 1) is enough: every frame has at least four octets -/
theorem frames_le_length (fs : List Bytes) (hv : ∀ f ∈ fs, ValidFrame f) : fs.length ≤ fs.flatten.length := by
  induction fs with
  | nil => simp
  | cons f rest ih =>
    have := (hv f (by simp)).1
    have := ih (fun g hg => hv g (by simp [hg]))
    simp only [List.length_cons, List.flatten_cons, List.length_append]; omega

theorem Framed.length_le {b r : Bytes} {fs : List Bytes} {bad : Bool} (h : Framed b fs r bad) :
    fs.length ≤ b.length := by
  have := frames_le_length fs h.valid
  rw [h.eq, List.length_append]; omega

theorem Framed.extract {b r : Bytes} {fs : List Bytes} {bad : Bool} (h : Framed b fs r bad) {fuel : Nat}
    (hfuel : fs.length < fuel) : extractAll fuel b = (fs, r, bad) := by
  obtain ⟨rfl, hv, hs⟩ := h
  induction fs generalizing fuel with
  | nil =>
    cases fuel with
    | zero => exact absurd hfuel (Nat.not_lt_zero _)
    | succ fuel =>
      cases bad <;> simp only [List.flatten_nil, List.nil_append, extractAll, hs, if_true, if_false,
        Bool.false_eq_true]
  | cons f fs ih =>
    cases fuel with
    | zero => exact absurd hfuel (Nat.not_lt_zero _)
    | succ fuel =>
      simp only [List.flatten_cons, List.append_assoc, extractAll, decodeNB_frame f _ (hv f (by simp)),
        ih (by simpa using hfuel) (fun g hg => hv g (by simp [hg]))]

theorem extractAll_prefix (fuel : Nat) (b : Bytes) : (extractAll fuel b).1.flatten <+: b := by
  induction fuel generalizing b with
  | zero => exact List.nil_prefix
  | succ k ih =>
    unfold extractAll
    cases hd : decodeNB b with
    | frame f rest =>
      obtain ⟨rfl, -⟩ := C04_nb_frame_complete b f rest hd
      exact (List.prefix_append_right_inj f).2 (ih rest)
    | invalid => exact List.nil_prefix
    | incomplete => exact List.nil_prefix

theorem exists_framed (b : Bytes) : ∃ fs r bad, Framed b fs r bad := by
  induction hn : b.length using Nat.strongRecOn generalizing b with
  | _ n ih =>
    cases hd : decodeNB b with
    | incomplete => exact ⟨[], b, false, rfl, by simp, hd⟩
    | invalid => exact ⟨[], b, true, rfl, by simp, hd⟩
    | frame f rest =>
      obtain ⟨e, hf⟩ := C04_nb_frame_complete b f rest hd
      obtain ⟨fs, r, bad, h⟩ := ih rest.length (by rw [← hn, e, List.length_append]; have := hf.1; omega) rest rfl
      exact ⟨f :: fs, r, bad, by rw [e, h.eq, List.flatten_cons, List.append_assoc],
        List.forall_mem_cons.2 ⟨hf, h.valid⟩, h.stop⟩

theorem Framed.append {b r x r' : Bytes} {fs fs' : List Bytes} {bad : Bool} (h : Framed b fs r false)
    (h' : Framed (r ++ x) fs' r' bad) : Framed (b ++ x) (fs ++ fs') r' bad :=
  ⟨by rw [h.eq, List.append_assoc, h'.eq, List.flatten_append, List.append_assoc],
    fun f hf => (List.mem_append.1 hf).elim (h.valid f) (h'.valid f), h'.stop⟩

theorem Framed.append_bad {b r : Bytes} {fs : List Bytes} (h : Framed b fs r true) (x : Bytes) :
    Framed (b ++ x) fs (r ++ x) true :=
  ⟨by rw [h.eq, List.append_assoc], h.valid, decodeNB_invalid_append r x h.stop⟩

/-- **extractAll_exact** : on a buffer holding valid frames followed by an incomplete tail,
    repeated extraction returns exactly those frames, in order and octet for octet, and leaves
    exactly the tail. -/
theorem extractAll_exact (fs : List Bytes) (t : Bytes) (hv : ∀ f ∈ fs, ValidFrame f) (ht : Pending t)
    (fuel : Nat) (hfuel : fs.length < fuel) : extractAll fuel (fs.flatten ++ t) = (fs, t, false) :=
  Framed.extract (bad := false) ⟨rfl, hv, ht⟩ hfuel

/-- **C04_incomplete_consumes_nothing** : while the next frame is incomplete the extractor reports
    'incomplete' and the buffer is untouched, however often it is called -/
theorem C04_incomplete_consumes_nothing (t : Bytes) (ht : Pending t) (fuel : Nat) :
    extractAll fuel t = ([], t, false) := by
  cases fuel with
  | zero => rfl
  | succ fuel => exact extractAll_exact [] t (by simp) ht _ (Nat.succ_pos _)

/-- **C04_short_prefix_refused** (non-blocking extractor) : a length prefix smaller than the prefix itself is an
    error; it never yields a frame (in particular not an empty one) and consumes nothing -/
theorem C04_short_prefix_refused (buf : Bytes) (h4 : 4 ≤ buf.length) (hn : fromBe (buf.take 4) < 4) :
    decodeNB buf = .invalid ∧ ∀ fuel, 0 < fuel → extractAll fuel buf = ([], buf, true) :=
  have h := (decodeNB_invalid_iff buf).2 ⟨h4, hn⟩
  ⟨h, fun _ hf => Framed.extract (fs := []) (bad := true) ⟨rfl, by simp, h⟩ hf⟩

theorem take_flatten_drop (fs : List Bytes) (k m : Nat) :
    (fs.take (k + m)).flatten = (fs.take k).flatten ++ ((fs.drop k).take m).flatten := by
  rw [← List.flatten_append]
  congr 1
  rw [List.take_add]

theorem arrive_of_framed (c : Conn) (x : Bytes) {fs : List Bytes} {r : Bytes} {bad : Bool}
    (hc : c.closed = false) (h : Framed (c.buf ++ x) fs r bad) :
    c.arrive x = ⟨r, c.delivered ++ fs, bad⟩ := by
  simp only [Conn.arrive, hc, Bool.false_eq_true, if_false, h.extract (Nat.lt_succ_of_le h.length_le)]

theorem arrive_arrive (c : Conn) (x y : Bytes) (hc : c.closed = false) (hx : (c.arrive x).closed = false) :
    (c.arrive x).arrive y = c.arrive (x ++ y) := by
  obtain ⟨fs₁, r₁, bad, h₁⟩ := exists_framed (c.buf ++ x)
  rw [arrive_of_framed c x hc h₁] at hx ⊢
  obtain rfl : bad = false := hx
  obtain ⟨fs₂, r₂, bad₂, h₂⟩ := exists_framed (r₁ ++ y)
  rw [arrive_of_framed _ y rfl h₂,
    arrive_of_framed c (x ++ y) hc (by rw [← List.append_assoc]; exact h₁.append h₂), List.append_assoc]

theorem foldl_arrive_closed (chunks : List Bytes) (c : Conn) (hc : c.closed = true) :
    chunks.foldl Conn.arrive c = c := by
  induction chunks with
  | nil => rfl
  | cons ch rest ih => rw [List.foldl_cons, show c.arrive ch = c from if_pos hc, ih]

/-- any arrival pattern: however the octets are cut into arrivals, the receiver ends as one that got them
    in one piece.  The buffers are compared only while it is open: a closed one keeps the buffer it had
    when it refused the prefix, the model drops what arrives later. -/
theorem foldl_arrive (chunks : List Bytes) (c : Conn) (x : Bytes) (hc : c.closed = false) :
    (chunks.foldl Conn.arrive (c.arrive x)).delivered = (c.arrive (x ++ chunks.flatten)).delivered ∧
    (chunks.foldl Conn.arrive (c.arrive x)).closed = (c.arrive (x ++ chunks.flatten)).closed ∧
    ((c.arrive (x ++ chunks.flatten)).closed = false →
      (chunks.foldl Conn.arrive (c.arrive x)).buf = (c.arrive (x ++ chunks.flatten)).buf) := by
  induction chunks generalizing x with
  | nil => simp
  | cons ch rest ih =>
    rw [List.flatten_cons, ← List.append_assoc]
    obtain ⟨fs, r, bad, h⟩ := exists_framed (c.buf ++ x)
    have e := arrive_of_framed c x hc h
    cases bad with
    | false => rw [List.foldl_cons, arrive_arrive c x ch hc (by rw [e])]; exact ih _
    | true =>
      -- `x` closes it and the rest is dropped; in one piece the same prefix is refused
      rw [e, foldl_arrive_closed _ _ rfl, arrive_of_framed c (x ++ ch ++ rest.flatten) hc
        (by rw [List.append_assoc x, ← List.append_assoc]; exact h.append_bad _)]
      exact ⟨rfl, rfl, fun h => nomatch h⟩

/-- **C04_framing_exact** : the receiver, fed the stream `frames ++ tail` in any chunking, ends with
    exactly the frames delivered and exactly the tail buffered. -/
theorem C04_framing_exact (fs : List Bytes) (t : Bytes) (hv : ∀ f ∈ fs, ValidFrame f)
    (hpend : ∀ k, Pending (t.take k)) (chunks : List Bytes) (hs : chunks.flatten = fs.flatten ++ t) :
    (chunks.foldl Conn.arrive {}).delivered = fs ∧ (chunks.foldl Conn.arrive {}).buf = t ∧
    (chunks.foldl Conn.arrive {}).closed = false := by
  have ht : Pending t := by simpa using hpend t.length
  have h := foldl_arrive chunks {} [] rfl
  rw [arrive_of_framed {} ([] ++ chunks.flatten) rfl (fs := fs) (r := t) (bad := false)
    ⟨by simpa using hs, hv, ht⟩] at h
  exact ⟨h.1, h.2.2 rfl, h.2.1⟩

theorem readFull_ok {s : Stream} {n : Nat} (h : n ≤ s.data.length) :
    readFull s n = .ok (s.data.take n, { s with data := s.data.drop n }) := if_pos h

theorem readFull_short {s : Stream} {n : Nat} (h : s.data.length < n) : ∃ e, readFull s n = .error e := by
  unfold readFull
  rw [if_neg (Nat.not_le.2 h)]
  split
  · exact ⟨_, rfl⟩
  · split <;> exact ⟨_, rfl⟩

theorem decodeBlocked_eq (s : Stream) :
    match decodeNB s.data with
    | .frame f _ => decodeBlocked s = (.ok f, f.length)
    | .invalid => decodeBlocked s = (.error .badPrefix, 4)
    | .incomplete => ∃ e, decodeBlocked s = (.error e, s.data.length) := by
  unfold decodeNB decodeBlocked
  by_cases h4 : s.data.length < 4
  · obtain ⟨e, he⟩ := readFull_short h4
    simp only [h4, if_true, he]
    exact ⟨e, rfl⟩
  · rw [readFull_ok (Nat.not_lt.1 h4)]
    simp only [h4, if_false]
    by_cases hn : fromBe (s.data.take 4) < 4
    · simp only [hn, if_true]
    · simp only [hn, if_false]
      by_cases hl : s.data.length < fromBe (s.data.take 4)
      · obtain ⟨e, he⟩ := readFull_short (s := { s with data := s.data.drop 4 }) (n := fromBe (s.data.take 4) - 4)
          (by simp only [List.length_drop]; omega)
        simp only [hl, if_true, he]
        exact ⟨e, rfl⟩
      · rw [readFull_ok (by simp only [List.length_drop]; omega)]
        simp only [hl, if_false]
        rw [← List.take_add, Nat.add_sub_cancel' (Nat.not_lt.1 hn), List.length_take,
          Nat.min_eq_left (Nat.not_lt.1 hl)]

/-- **C04_blocked_no_partial** : the blocking extractor returns a whole frame — the next `n` octets of
    the stream, `n` being their own prefix — or an error; never a partial frame -/
theorem C04_blocked_no_partial (s : Stream) (f : Bytes) (n : Nat) (h : decodeBlocked s = (.ok f, n)) :
    f = s.data.take n ∧ n ≤ s.data.length ∧ 4 ≤ n ∧ fromBe (f.take 4) = n := by
  have hb := decodeBlocked_eq s
  cases hd : decodeNB s.data with
  | frame f' rest =>
    rw [hd] at hb
    obtain ⟨rfl, rfl⟩ : f' = f ∧ f'.length = n := by simpa [hb] using h
    obtain ⟨e, h4, hn⟩ := C04_nb_frame_complete _ f' rest hd
    exact ⟨by rw [e, List.take_left' rfl], by rw [e, List.length_append]; omega, h4, hn⟩
  | invalid => rw [hd] at hb; simp [hb] at h
  | incomplete => rw [hd] at hb; obtain ⟨e, he⟩ := hb; simp [he] at h

/-- **C04_blocked_short_prefix** : a prefix below 4 is an error after exactly the four prefix
    octets have been read — no panic, no frame -/
theorem C04_blocked_short_prefix (s : Stream) (h4 : 4 ≤ s.data.length) (hn : fromBe (s.data.take 4) < 4) :
    decodeBlocked s = (.error .badPrefix, 4) := by
  have hb := decodeBlocked_eq s
  rwa [(decodeNB_invalid_iff _).2 ⟨h4, hn⟩] at hb

/-- **C04_blocked_truncated** : a stream that ends or fails before the frame is complete gives an error,
    not a frame -/
theorem C04_blocked_truncated (s : Stream) (h : s.data.length < 4 ∨ s.data.length < fromBe (s.data.take 4)) :
    ∃ e, (decodeBlocked s).1 = .error e := by
  have hb := decodeBlocked_eq s
  rw [(decodeNB_incomplete_iff _).2 h] at hb
  obtain ⟨e, he⟩ := hb
  exact ⟨e, by rw [he]⟩

example : ValidFrame [0, 0, 0, 6, 9, 9] := by simp [ValidFrame, fromBe]
example : (([[0, 0, 0, 4], [0], [0, 0, 5, 7]] : List Bytes).foldl Conn.arrive {}).delivered
    = [[0, 0, 0, 4], [0, 0, 0, 5, 7]] := by decide

/-- **C04_connections_independent** (sharing one codec value between connections): in the model the
    extractor is a function of the stream it is given, so this holds by the definition of `blockedPair`
    and says nothing more; that what one connection yields does not depend on the other connection's
    octets, read sizes or timing is what the correspondence run holds the implementation to
    (`frame pair`: two connections, one codec value, strictly alternating reads). -/
theorem C04_connections_independent (a b b' : Bytes) :
    (blockedPair a b).1 = (blockedPair a b').1 ∧ (blockedPair b a).2 = (blockedPair b' a).2 := ⟨rfl, rfl⟩

def okFrames : List (Except BErr Bytes) → List Bytes
  | [] => []
  | .ok f :: rs => f :: okFrames rs
  | .error _ :: rs => okFrames rs

theorem okFrames_blockedAll (fuel : Nat) (data : Bytes) :
    okFrames (blockedAll fuel data) = (extractAll fuel data).1 := by
  induction fuel generalizing data with
  | zero => rfl
  | succ k ih =>
    have hb := decodeBlocked_eq ⟨data, false⟩
    unfold blockedAll extractAll
    cases hd : decodeNB data with
    | frame f rest =>
      rw [hd] at hb
      obtain ⟨e, -⟩ := C04_nb_frame_complete data f rest hd
      simp only [hb, okFrames, ih]
      rw [e, List.drop_left' rfl]
    | invalid => rw [hd] at hb; simp only [hb, okFrames]
    | incomplete => rw [hd] at hb; obtain ⟨e, he⟩ := hb; simp only [he, okFrames]

/-- **C04_drained_frames_are_stream_prefix** : a connection drained with the blocking extractor yields consecutive
    pieces of its own stream: the frames handed out, concatenated, are a prefix of what was sent on that
    connection (nothing invented, nothing skipped, nothing from elsewhere) -/
theorem C04_drained_frames_are_stream_prefix (fuel : Nat) (data : Bytes) :
    (okFrames (blockedAll fuel data)).flatten <+: data := by
  rw [okFrames_blockedAll]
  exact extractAll_prefix fuel data

end SmsVerif.C04

section
open SmsVerif.C04
#print axioms extractAll_exact
#print axioms C04_incomplete_consumes_nothing
#print axioms C04_framing_exact
#print axioms C04_short_prefix_refused
#print axioms C04_nb_frame_complete
#print axioms C04_blocked_no_partial
#print axioms C04_blocked_short_prefix
#print axioms C04_blocked_truncated
#print axioms C04_connections_independent
#print axioms C04_drained_frames_are_stream_prefix
end
