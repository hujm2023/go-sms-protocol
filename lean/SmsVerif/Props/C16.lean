/-
  C16 — optional-parameter containers (SMPP TLVs, SMGP options) are lossless and safe.
  Model: `Model/OptParams.lean` (hand model of smpp/pdu_tlv.go and smgp/options.go).

  The three reader-based parsers (`ReadTLVs`, `ReadTLVs1`, `ReadOptions`) are one function of the
  model, `readTlvs`: that they agree with each other is what the correspondence run holds them to
  (each is compared with `readTlvs`), not a theorem; proved is the agreement of `readTlvs` with the
  slice-based `ParseOptions`.  A container is a list here, so Go's nil map (`Add` on an empty
  container) and the typed accessor on a value shorter than it expects (`TP_udhi`) have no
  counterpart: those two clauses are exercised on the implementation only.
-/
import SmsVerif.Lemmas.OptParams

namespace SmsVerif.C16
open SmsVerif

/-- **parse_serialize_perm** : a set of parameters with distinct tags, serialised in any emission
    order `order`, parses back (with either entry point) to exactly the emitted list — hence to the
    same set whatever the order was. -/
theorem C16_parse_serialize (order : TlvMap) (hn : tagsNodup order = true) (hb : WellFormed order) (a : Nat) :
    (readTlvs ⟨tlvsBytes order, none, a⟩).map.getD [] = order ∧
    (readTlvs ⟨tlvsBytes order, none, a⟩).rd.err = none ∧
    parseOptions (tlvsBytes order) = some order :=
  ⟨(readTlvs_ser order a hn hb).1, (readTlvs_ser order a hn hb).2, parseOptions_ser order hn hb⟩

/-- **parsers_agree** : on every well-formed triplet sequence — any order, duplicate tags allowed —
    the reader-based entry point (ReadTLVs / ReadTLVs1 / ReadOptions) and the slice-based one
    (ParseOptions) build the same map: the last triplet of a tag wins in both.  Not for the empty
    sequence (`hne`): with nothing left to read the reader-based parsers return nil, ParseOptions an
    empty container. -/
theorem C16_parsers_agree (seq : TlvMap) (hb : WellFormed seq) (hne : seq ≠ []) (a : Nat) :
    (readTlvs ⟨tlvsBytes seq, none, a⟩).map = parseOptions (tlvsBytes seq) ∧
    parseOptions (tlvsBytes seq) = some (upsertAll [] seq) := by
  obtain ⟨h1, h2⟩ := parse_tlvsBytes seq hb
  obtain ⟨a', h2⟩ := h2 hne a
  exact ⟨by rw [h1, h2], h1⟩

/-- the triplet `(t, v)` is completely present in `bs`: a 4-octet header whose two halves read
    `t` and `len v`, immediately followed by the octets of `v` -/
def Present (bs : Bytes) (t : Nat) (v : Bytes) : Prop :=
  ∃ pre hd post, bs = pre ++ hd ++ v ++ post ∧ hd.length = 4 ∧ fromBe (hd.take 2) = t ∧ fromBe (hd.drop 2) = v.length

theorem triplets_present (bs : Bytes) : ∀ x ∈ (triplets bs).1, Present bs x.1 x.2 := by
  induction bs using triplets.induct with
  | case1 bs hs => simp [triplets_of_none hs]
  | case2 bs tv rest hs ih =>
    obtain ⟨hd, h4, h1, h2, rfl⟩ := splitTlv_eq_some.1 hs
    rw [triplets_of_some hs]
    intro x hx
    rcases List.mem_cons.1 hx with rfl | hx
    · exact ⟨[], hd, rest, rfl, h4, h1, h2⟩
    · obtain ⟨pre, hd', post, e, h⟩ := ih x hx
      exact ⟨hd ++ tv.2 ++ pre, hd', post, by rw [e]; simp only [List.append_assoc], h⟩

/-- **no_fabrication** (slice-based parser): whatever octets are parsed, every parameter reported
    is completely present in the input -/
theorem C16_no_fabrication (bs : Bytes) (m : TlvMap) (h : parseOptions bs = some m) :
    ∀ x ∈ m, Present bs x.1 x.2 := by
  obtain ⟨_, rfl⟩ := parseOptions_some h
  exact fun x hx => triplets_present bs x ((mem_upsertAll hx).resolve_left (by simp))

/-- **no_fabrication** (reader-based parsers `ReadTLVs`, `ReadTLVs1`, `ReadOptions`): every parameter
    reported is completely present in the unread input -/
theorem C16_no_fabrication_reader (r : Reader) (x : Tlv) (hx : x ∈ (readTlvs r).map.getD []) :
    Present r.rest x.1 x.2 := by
  cases h : (readTlvs r).map with
  | none => simp [h] at hx
  | some res =>
    rw [h, readTlvs_some h] at hx
    exact triplets_present r.rest x ((mem_upsertAll hx).resolve_left (by simp))

/-- **long_value_consistent** : for a value of any length the emitted length field and the emitted
    value agree (the value is truncated to `len mod 65536` octets, never a panic or a mismatch) -/
theorem C16_long_value_consistent (t : Nat) (v : Bytes) :
    ∃ l, l = v.length % 65536 ∧ tlvBytes (t, v) = be 2 t ++ be 2 l ++ v.take l ∧
      (tlvBytes (t, v)).length = 4 + l ∧ (v.take l).length = l := by
  have hl := Nat.mod_le v.length 65536
  refine ⟨v.length % 65536, rfl, rfl, ?_, ?_⟩
  · simp [tlvBytes]; omega
  · simp only [List.length_take]; omega

/-- adding to an empty container takes effect and a lookup finds what was added, or nothing (of the
    model's lists; for the Go side of this clause see the header) -/
theorem C16_add_to_empty (t : Nat) (v : Bytes) :
    TlvMap.find? (TlvMap.upsert [] t v) t = some v ∧ TlvMap.find? [] t = none :=
  ⟨by rw [find?_upsert, if_pos rfl], rfl⟩

/-- **accepts_exactly** : the slice-based parser accepts a byte string if and only if it is the
    concatenation of complete triplets (no trailing octets, no triplet cut short), and what it
    returns is then the last-wins container of exactly those triplets.  Together with
    `C16_parsers_agree` this makes "all well-formed triplet sequences" the whole accepted domain:
    nothing outside it is ever parsed into a container. -/
theorem C16_parse_options_accepts_exactly (bs : Bytes) (hb : ∀ b ∈ bs, b < 256) (m : TlvMap) :
    parseOptions bs = some m ↔ ∃ seq : TlvMap, WellFormed seq ∧ bs = tlvsBytes seq ∧ m = upsertAll [] seq := by
  constructor
  · intro h
    obtain ⟨hr, rfl⟩ := parseOptions_some h
    obtain ⟨hwf, e⟩ := triplets_octets bs hb
    rw [hr, List.append_nil] at e
    exact ⟨_, hwf, e, rfl⟩
  · rintro ⟨seq, hwf, rfl, rfl⟩
    exact (parse_tlvsBytes seq hwf).1

/-- a byte string that is not a triplet sequence is refused (`ErrLength`), e.g. a triplet sequence
    followed by one to three stray octets, or a triplet whose value is cut short -/
theorem C16_parse_options_refuses (bs : Bytes) (hb : ∀ b ∈ bs, b < 256)
    (h : ¬ ∃ seq : TlvMap, WellFormed seq ∧ bs = tlvsBytes seq) : parseOptions bs = none := by
  cases hp : parseOptions bs with
  | none => rfl
  | some m =>
    obtain ⟨seq, hwf, hbs, _⟩ := (C16_parse_options_accepts_exactly bs hb m).1 hp
    exact absurd ⟨seq, hwf, hbs⟩ h

/-- **reader_returns_triplet_prefix** : for *every* byte string, what the reader-based parsers
    (ReadTLVs / ReadTLVs1 / ReadOptions) return is the last-wins container of a prefix of the unread
    input consisting of complete triplets — they stop at the first triplet that is not complete, and
    never assemble a parameter from anywhere else.  (They return a container only if what is left
    there is nothing, or a header and not one octet of its value; any other cut is an error and no
    container: `tlvStop`, `readTlvs_eq`.) -/
theorem C16_reader_returns_triplet_prefix (r : Reader) (hb : ∀ b ∈ r.rest, b < 256) (res : TlvMap)
    (h : (readTlvs r).map = some res) :
    ∃ seq : TlvMap, WellFormed seq ∧ tlvsBytes seq <+: r.rest ∧ res = upsertAll [] seq :=
  have ⟨hwf, hbs⟩ := triplets_octets r.rest hb
  ⟨_, hwf, ⟨_, hbs.symm⟩, readTlvs_some h⟩

/-- **parsers_agree_on_accepted** : parser agreement stated on octets rather than on triplet lists:
    whatever non-empty input the slice-based parser accepts, the reader-based ones turn into the
    same container. -/
theorem C16_parsers_agree_on_accepted (bs : Bytes) (hb : ∀ b ∈ bs, b < 256) (hne : bs ≠ []) (m : TlvMap)
    (h : parseOptions bs = some m) (a : Nat) : (readTlvs ⟨bs, none, a⟩).map = some m := by
  have _ := hb  -- not needed: both parsers are functions of `triplets bs`, whatever the octets
  obtain ⟨hr, rfl⟩ := parseOptions_some h
  obtain ⟨a', _, e⟩ := readTlvs_mk hne a
  rw [e, hr]; rfl

example : parseOptions [0, 5, 0, 2, 1, 2, 0, 5, 0, 1, 9] = some [(5, [9])] := by decide
example : parseOptions [0, 5, 0, 2, 1, 2, 7] = none := by decide
example : parseOptions [0, 5, 0, 3, 1, 2] = none := by decide

example : WellFormed [(5, [1, 2]), (0x0204, []), (3, [0xff])] ∧ tagsNodup [(5, [1, 2]), (0x0204, []), (3, [0xff])] = true := by
  refine ⟨?_, by decide⟩
  intro tv h; simp at h; rcases h with rfl | rfl | rfl <;> simp

end SmsVerif.C16

section
open SmsVerif.C16
#print axioms C16_parse_serialize
#print axioms C16_parsers_agree
#print axioms C16_no_fabrication
#print axioms C16_no_fabrication_reader
#print axioms C16_long_value_consistent
#print axioms C16_add_to_empty
#print axioms C16_parse_options_accepts_exactly
#print axioms C16_parse_options_refuses
#print axioms C16_reader_returns_triplet_prefix
#print axioms C16_parsers_agree_on_accepted
end
