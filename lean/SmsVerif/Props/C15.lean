/-
  C15 — login authenticators verify end to end for all credentials.

  `md5` is an arbitrary function `Bytes → Bytes` (uninterpreted): the theorems hold for whatever
  digest function is used; what is proved is everything around it — the digest input, the
  zero-padded timestamp, and that account, timestamp and the 16 digest octets (any byte values,
  0x00 included) survive encoding, transmission and decoding unchanged, so that the peer's
  recomputation from the decoded PDU equals the authenticator it received.

  Left out: the SMGP response direction.  `smgp30.LoginResp.AuthenticatorServer` is read as a
  NUL-terminated string (`C01.binaryExceptions`, an open finding), so a digest with a 0x00 octet
  does not come back whole and there is no exchange theorem for it.
-/
import SmsVerif.Props.C11
import SmsVerif.Lemmas.Decimal
import SmsVerif.Gen.Funcs

namespace SmsVerif.C15
open SmsVerif SmsVerif.C01

/-- **ts10_width** : the timestamp string always has exactly ten characters -/
theorem C15_ts10_width (t : Nat) : (ts10 t).length = 10 := decDigits_length 10 t

/-- … and it denotes the timestamp (every 32-bit value, in particular 0..1231235959) -/
theorem C15_ts10_parse (t : Nat) (h : t < 2 ^ 32) : parseDec (ts10 t) = t :=
  parseDec_decDigits 10 t (by omega)

theorem C15_ts10_digits (t : Nat) : ∀ b ∈ ts10 t, 48 ≤ b ∧ b ≤ 57 := fun _ => decDigits_digit

/-- the digest inputs have the layout the protocols define -/
theorem C15_digest_input_layout (account secret : Bytes) (ts : Nat) :
    cmppAuthInput account secret ts = account ++ List.replicate 9 0 ++ secret ++ ts10 ts ∧
    smgpAuthInput account secret ts = account ++ List.replicate 7 0 ++ secret ++ ts10 ts ∧
    (cmppAuthInput account secret ts).length = account.length + 9 + secret.length + 10 ∧
    (smgpAuthInput account secret ts).length = account.length + 7 + secret.length + 10 := by
  simp [cmppAuthInput, smgpAuthInput, zeros, C15_ts10_width]
  omega

/-! `Gen.digestInputs` is re-extracted on every run from the syntax of the four functions that call
  MD5 (`go/extract/digest.go`).  Evaluating the piece list is the model's digest input. -/

/-- `arg i`: the i-th argument as octets; `num`: a numeric argument or call result; `res f k`: the k-th
    result of the call `f()` as octets -/
structure Args where
  arg : Nat → Bytes
  num : Gen.Num → Nat
  res : String → Nat → Bytes

/-- `.digest` and `.unrecognised` are not evaluated (they give no octets); that is harmless only
    because `C15_digest_inputs_from_source` fixes the four lists and neither occurs in them -/
def evalPiece (a : Args) : Gen.Piece → Bytes
  | .arg i => a.arg i
  | .zeros n => zeros n
  | .dec10 x => ts10 (a.num x)
  | .res f k => a.res f k
  | .lit bs => bs
  | .digest => []
  | .unrecognised _ => []

def evalPieces (a : Args) (ps : List Gen.Piece) : Bytes :=
  (ps.map (evalPiece a)).flatten

def digestOf (name : String) : Option (List Gen.Piece) := (Gen.digestInputs.find? (·.1 == name)).map (·.2)

/-- per-run obligation: what the four functions hand to MD5 (arguments by position, so that renaming a
    parameter or a local, or moving the concatenation into a helper, regenerates the same list) -/
theorem C15_digest_inputs_from_source :
    digestOf "cmpp.GenConnectAuth" = some [.arg 0, .zeros 9, .arg 1, .arg 2] ∧
    digestOf "cmpp20.NewConnect" = some [.arg 0, .zeros 9, .arg 1, .res "cmpp20.now" 0] ∧
    digestOf "cmpp.GenConnectRespAuthISMG" = some [.arg 0, .arg 1, .arg 2] ∧
    digestOf "smgp30.genAuthenticatorClient" = some [.arg 0, .zeros 7, .arg 1, .dec10 (.arg 2)] ∧
    Gen.timestampFormat = "%010d" := by decide +kernel

/-- **the source's digest inputs are the model's**: for any argument values.
    `cmpp.GenConnectAuth(account, password, timestampStr)` receives the timestamp already rendered by
    `TimeStamp2Str`, i.e. `ts10 ts`; `cmpp20.NewConnect(account, passwd, …)` takes it from the first result of
    `now()`; `cmpp.GenConnectRespAuthISMG(statusBytes, reqAuth, password)`;
    `smgp30.genAuthenticatorClient(clientId, secret, timestamp)` -/
theorem C15_digest_input_is_source (a : Args) :
    (∀ ps ts, digestOf "cmpp.GenConnectAuth" = some ps → a.arg 2 = ts10 ts →
      evalPieces a ps = cmppAuthInput (a.arg 0) (a.arg 1) ts) ∧
    (∀ ps ts, digestOf "cmpp20.NewConnect" = some ps → a.res "cmpp20.now" 0 = ts10 ts →
      evalPieces a ps = cmppAuthInput (a.arg 0) (a.arg 1) ts) ∧
    (∀ ps, digestOf "cmpp.GenConnectRespAuthISMG" = some ps →
      evalPieces a ps = cmppRespAuthInput (a.arg 0) (a.arg 1) (a.arg 2)) ∧
    (∀ ps, digestOf "smgp30.genAuthenticatorClient" = some ps →
      evalPieces a ps = smgpAuthInput (a.arg 0) (a.arg 1) (a.num (.arg 2))) := by
  obtain ⟨h1, h2, h3, h4, _⟩ := C15_digest_inputs_from_source
  rw [h1, h2, h3, h4]
  refine ⟨?_, ?_, ?_, ?_⟩
  · rintro _ ts ⟨⟩ hts
    simp [evalPieces, evalPiece, cmppAuthInput, hts]
  · rintro _ ts ⟨⟩ hts
    simp [evalPieces, evalPiece, cmppAuthInput, hts]
  · rintro _ ⟨⟩
    simp [evalPieces, evalPiece, cmppRespAuthInput]
  · rintro _ ⟨⟩
    simp [evalPieces, evalPiece, smgpAuthInput]

/-- `F` are struct fields, none of them the length word, none assigned by the encoder's normalisation -/
def survivesCheck (p : PduDesc) (F : List String) : Bool :=
  match p.items with
  | none => false
  | some (lf, its) =>
    decide (∀ f ∈ F, f ∈ p.fields.map (·.1) ∧ f ∉ C11.allTargets its ∧ ¬(p.fin = .withLength ∧ f = lf))

def Survive (p : PduDesc) (F : List String) : Prop :=
  p ∈ Gen.allPdus ∧ exceptions.contains p.name = false ∧ survivesCheck p F = true

theorem fields_survive {p : PduDesc} {F : List String} (h : Survive p F) :
    ∃ lf its, p.items = some (lf, its) ∧ ∀ r : Rec,
      (∀ it ∈ its, it.Fits (norm its r)) → (itemsBytes (norm its r) its).length + 4 < 2 ^ 32 →
      ∃ bs dec r', p.encode r = .ok (bs, r') ∧ p.decode bs = .ok dec ∧ ∀ f ∈ F, dec.get? f = r.get? f := by
  obtain ⟨hp, hx, hF⟩ := h
  obtain ⟨lf, its, hits, hst⟩ := C11.C11_stable_partial p hp hx
  refine ⟨lf, its, hits, fun r hfit hsize => ?_⟩
  obtain ⟨bs, dec, ⟨r', henc⟩, hdec, hfields⟩ := hst r hfit hsize
  refine ⟨bs, dec, r', henc, hdec, fun f hf => ?_⟩
  simp only [survivesCheck, hits, decide_eq_true_eq] at hF
  obtain ⟨hmem, htgt, hnot⟩ := hF f hf
  obtain ⟨ft, hft, rfl⟩ := List.mem_map.1 hmem
  exact hfields ft hft htgt hnot

/-- whatever `Q` the receiver can establish from the surviving fields of the decoded PDU alone holds
    of what it decodes.  The premise `Fits` is that of `C01_roundtrip`; for the login PDUs it asks:
    account without NUL and within its slot, authenticator exactly 16 octets of any value
    (`C15_slots_raw`), integers within their widths. -/
theorem exchange {p : PduDesc} {F : List String} (h : Survive p F) (r : Rec) (Q : Rec → Prop)
    (hQ : ∀ dec : Rec, (∀ f ∈ F, dec.get? f = r.get? f) → Q dec) :
    ∃ lf its, p.items = some (lf, its) ∧
      ((∀ it ∈ its, it.Fits (norm its r)) → (itemsBytes (norm its r) its).length + 4 < 2 ^ 32 →
       ∃ bs dec r', p.encode r = .ok (bs, r') ∧ p.decode bs = .ok dec ∧ Q dec) := by
  obtain ⟨lf, its, hits, h⟩ := fields_survive h
  refine ⟨lf, its, hits, fun hfit hsize => ?_⟩
  obtain ⟨bs, dec, r', henc, hdec, hf⟩ := h r hfit hsize
  exact ⟨bs, dec, r', henc, hdec, hQ dec hf⟩

/-- the three values a CMPP / SMGP peer needs to re-verify a login: account, timestamp, digest -/
def loginFields : List (String × List String) :=
  [("cmpp20.PduConnect", ["SourceAddr", "AuthenticatorSource", "Timestamp"]),
   ("cmpp30.Connect", ["SourceAddr", "AuthenticatorSource", "Timestamp"]),
   ("smgp30.Login", ["ClientID", "AuthenticatorClient", "Timestamp"]),
   ("cmpp20.PduConnectResp", ["Status", "AuthenticatorISMG"]),
   ("cmpp30.ConnectResp", ["Status", "AuthenticatorISMG"])]

/-! per-run obligations, one per row of `loginFields` -/

theorem cmpp20_connect_survives : Survive Gen.cmpp20_PduConnect ["SourceAddr", "AuthenticatorSource", "Timestamp"] :=
  ⟨by simp only [Gen.allPdus, List.mem_cons, true_or, or_true], by decide +kernel, by decide +kernel⟩

theorem cmpp30_connect_survives : Survive Gen.cmpp30_Connect ["SourceAddr", "AuthenticatorSource", "Timestamp"] :=
  ⟨by simp only [Gen.allPdus, List.mem_cons, true_or, or_true], by decide +kernel, by decide +kernel⟩

theorem smgp30_login_survives : Survive Gen.smgp30_Login ["ClientID", "AuthenticatorClient", "Timestamp"] :=
  ⟨by simp only [Gen.allPdus, List.mem_cons, true_or, or_true], by decide +kernel, by decide +kernel⟩

theorem cmpp20_connect_resp_survives : Survive Gen.cmpp20_PduConnectResp ["Status", "AuthenticatorISMG"] :=
  ⟨by simp only [Gen.allPdus, List.mem_cons, true_or, or_true], by decide +kernel, by decide +kernel⟩

theorem cmpp30_connect_resp_survives : Survive Gen.cmpp30_ConnectResp ["Status", "AuthenticatorISMG"] :=
  ⟨by simp only [Gen.allPdus, List.mem_cons, true_or, or_true], by decide +kernel, by decide +kernel⟩

/-- **auth_survives / peer_recomputation_matches** (CMPP 3.0 connect, stated for an arbitrary digest
    function): if the request carries `md5(digest input)` for its own account and timestamp, then
    whatever the 16 digest octets are, the receiver — decoding the bytes and recomputing from the
    decoded account and decoded timestamp with the same secret — obtains exactly the authenticator
    it received. -/
theorem C15_cmpp30_connect_exchange (md5 : Bytes → Bytes) (account secret : Bytes) (ts : Nat) (r : Rec)
    (hacc : r.get? "SourceAddr" = some (.str account))
    (hts : r.get? "Timestamp" = some (.num ts))
    (hauth : r.get? "AuthenticatorSource" = some (.str (md5 (cmppAuthInput account secret ts)))) :
    ∃ lf its, Gen.cmpp30_Connect.items = some (lf, its) ∧
      ((∀ it ∈ its, it.Fits (norm its r)) → (itemsBytes (norm its r) its).length + 4 < 2 ^ 32 →
       ∃ bs dec r', Gen.cmpp30_Connect.encode r = .ok (bs, r') ∧ Gen.cmpp30_Connect.decode bs = .ok dec ∧
         dec.str "AuthenticatorSource"
           = md5 (cmppAuthInput (dec.str "SourceAddr") secret (dec.num "Timestamp"))) :=
  exchange cmpp30_connect_survives r _ fun dec hf => by simp [Rec.str, Rec.num, hf, hacc, hts, hauth]

/-- **CMPP 2.0 connect**: the same exchange for `cmpp20.PduConnect` -/
theorem C15_cmpp20_connect_exchange (md5 : Bytes → Bytes) (account secret : Bytes) (ts : Nat) (r : Rec)
    (hacc : r.get? "SourceAddr" = some (.str account))
    (hts : r.get? "Timestamp" = some (.num ts))
    (hauth : r.get? "AuthenticatorSource" = some (.str (md5 (cmppAuthInput account secret ts)))) :
    ∃ lf its, Gen.cmpp20_PduConnect.items = some (lf, its) ∧
      ((∀ it ∈ its, it.Fits (norm its r)) → (itemsBytes (norm its r) its).length + 4 < 2 ^ 32 →
       ∃ bs dec r', Gen.cmpp20_PduConnect.encode r = .ok (bs, r') ∧ Gen.cmpp20_PduConnect.decode bs = .ok dec ∧
         dec.str "AuthenticatorSource"
           = md5 (cmppAuthInput (dec.str "SourceAddr") secret (dec.num "Timestamp"))) :=
  exchange cmpp20_connect_survives r _ fun dec hf => by simp [Rec.str, Rec.num, hf, hacc, hts, hauth]

/-- **SMGP 3.0 login**: the same exchange for `smgp30.Login` (`ClientID`, 7 zero octets in the digest input) -/
theorem C15_smgp30_login_exchange (md5 : Bytes → Bytes) (account secret : Bytes) (ts : Nat) (r : Rec)
    (hacc : r.get? "ClientID" = some (.str account))
    (hts : r.get? "Timestamp" = some (.num ts))
    (hauth : r.get? "AuthenticatorClient" = some (.str (md5 (smgpAuthInput account secret ts)))) :
    ∃ lf its, Gen.smgp30_Login.items = some (lf, its) ∧
      ((∀ it ∈ its, it.Fits (norm its r)) → (itemsBytes (norm its r) its).length + 4 < 2 ^ 32 →
       ∃ bs dec r', Gen.smgp30_Login.encode r = .ok (bs, r') ∧ Gen.smgp30_Login.decode bs = .ok dec ∧
         dec.str "AuthenticatorClient"
           = md5 (smgpAuthInput (dec.str "ClientID") secret (dec.num "Timestamp"))) :=
  exchange smgp30_login_survives r _ fun dec hf => by simp [Rec.str, Rec.num, hf, hacc, hts, hauth]

/-- the response direction: `AuthenticatorISMG = md5(status octets ++ request authenticator ++ secret)`; the
    client, recomputing from the *decoded* status with the authenticator it sent, obtains what it received.
    `statusOctets` is the big-endian rendering of the status the protocol version uses (1 octet in
    CMPP 2.0, 4 in CMPP 3.0) — any function of the decoded status value. -/
theorem C15_cmpp20_connect_resp_exchange (md5 : Bytes → Bytes) (statusOctets : Nat → Bytes) (status : Nat)
    (reqAuth secret : Bytes) (r : Rec) (hst : r.get? "Status" = some (.num status))
    (hauth : r.get? "AuthenticatorISMG" = some (.str (md5 (cmppRespAuthInput (statusOctets status) reqAuth secret)))) :
    ∃ lf its, Gen.cmpp20_PduConnectResp.items = some (lf, its) ∧
      ((∀ it ∈ its, it.Fits (norm its r)) → (itemsBytes (norm its r) its).length + 4 < 2 ^ 32 →
       ∃ bs dec r', Gen.cmpp20_PduConnectResp.encode r = .ok (bs, r') ∧ Gen.cmpp20_PduConnectResp.decode bs = .ok dec ∧
         dec.str "AuthenticatorISMG" = md5 (cmppRespAuthInput (statusOctets (dec.num "Status")) reqAuth secret)) :=
  exchange cmpp20_connect_resp_survives r _ fun dec hf => by simp [Rec.str, Rec.num, hf, hst, hauth]

theorem C15_cmpp30_connect_resp_exchange (md5 : Bytes → Bytes) (statusOctets : Nat → Bytes) (status : Nat)
    (reqAuth secret : Bytes) (r : Rec) (hst : r.get? "Status" = some (.num status))
    (hauth : r.get? "AuthenticatorISMG" = some (.str (md5 (cmppRespAuthInput (statusOctets status) reqAuth secret)))) :
    ∃ lf its, Gen.cmpp30_ConnectResp.items = some (lf, its) ∧
      ((∀ it ∈ its, it.Fits (norm its r)) → (itemsBytes (norm its r) its).length + 4 < 2 ^ 32 →
       ∃ bs dec r', Gen.cmpp30_ConnectResp.encode r = .ok (bs, r') ∧ Gen.cmpp30_ConnectResp.decode bs = .ok dec ∧
         dec.str "AuthenticatorISMG" = md5 (cmppRespAuthInput (statusOctets (dec.num "Status")) reqAuth secret)) :=
  exchange cmpp30_connect_resp_survives r _ fun dec hf => by simp [Rec.str, Rec.num, hf, hst, hauth]

/-- what the five exchange theorems rest on, as one statement over `loginFields`: all the fields
    the peer recomputes from come back exactly as sent -/
theorem C15_login_fields_survive (nf : String × List String) (hnf : nf ∈ loginFields) :
    ∃ p, p ∈ Gen.allPdus ∧ p.name = nf.1 ∧
      ∃ lf its, p.items = some (lf, its) ∧ ∀ r : Rec,
        (∀ it ∈ its, it.Fits (norm its r)) → (itemsBytes (norm its r) its).length + 4 < 2 ^ 32 →
        ∃ bs dec r', p.encode r = .ok (bs, r') ∧ p.decode bs = .ok dec ∧ ∀ f ∈ nf.2, dec.get? f = r.get? f := by
  simp only [loginFields, List.mem_cons, List.not_mem_nil, or_false] at hnf
  rcases hnf with rfl | rfl | rfl | rfl | rfl
  · exact ⟨_, cmpp20_connect_survives.1, rfl, fields_survive cmpp20_connect_survives⟩
  · exact ⟨_, cmpp30_connect_survives.1, rfl, fields_survive cmpp30_connect_survives⟩
  · exact ⟨_, smgp30_login_survives.1, rfl, fields_survive smgp30_login_survives⟩
  · exact ⟨_, cmpp20_connect_resp_survives.1, rfl, fields_survive cmpp20_connect_resp_survives⟩
  · exact ⟨_, cmpp30_connect_resp_survives.1, rfl, fields_survive cmpp30_connect_resp_survives⟩

/-- the authenticator slots of these five PDUs are 16 raw octets (NUL octets included); the sixth,
    `smgp30.LoginResp`, is the exception named in the header -/
theorem C15_slots_raw : (binaryFields.filter (fun pf => !binaryExceptions.contains pf)).all binaryOK = true :=
  C01_binary_fields_exact

end SmsVerif.C15

section
open SmsVerif.C15
#print axioms C15_ts10_width
#print axioms C15_ts10_parse
#print axioms C15_ts10_digits
#print axioms C15_digest_input_layout
#print axioms C15_digest_inputs_from_source
#print axioms C15_digest_input_is_source
#print axioms C15_cmpp30_connect_exchange
#print axioms C15_cmpp20_connect_exchange
#print axioms C15_smgp30_login_exchange
#print axioms C15_cmpp20_connect_resp_exchange
#print axioms C15_cmpp30_connect_resp_exchange
#print axioms C15_login_fields_survive
#print axioms C15_slots_raw
end
