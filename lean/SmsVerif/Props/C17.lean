/-
  C17 — CMPP message id: specified bit layout, lossless split / compose / string form.
-/
import SmsVerif.Model.MsgId
import SmsVerif.Gen.Funcs
import SmsVerif.Lemmas.Decimal

namespace SmsVerif.C17
open SmsVerif SmsVerif.MsgId

def InRange (p : Parts) : Prop :=
  p.month < 16 ∧ p.day < 32 ∧ p.hour < 32 ∧ p.minute < 64 ∧ p.second < 64 ∧ p.gate < 2 ^ 22 ∧ p.seq < 2 ^ 16

/-! ### `combine` and `split` step by step

  `combine` shifts the fields in from the top (Horner's scheme), `split` is the same as shifting
  them out from the bottom.  Written that way, each is undone one field at a time:
  `x / b * b + x % b = x` in one direction, `(a * b + v) / b = a` and `(a * b + v) % b = v` for
  `v < b` in the other.  (The shifts are written as numerals, 2^5 = 32, 2^6 = 64, 2^22 = 4194304,
  2^16 = 65536: a statement with a dozen `2 ^ k` is slow to elaborate.) -/

theorem mod_shl_add_mod (a c b n : Nat) : (a % n * c + b) % n = (a * c + b) % n := by
  rw [Nat.add_mod, Nat.mod_mul_mod, ← Nat.add_mod]

/-- `combine` may as well wrap once, at the end -/
theorem combine_eq_mod (m d h mi s g q : Nat) :
    combine m d h mi s g q =
      ((((((m * 32 + d) * 32 + h) * 64 + mi) * 64 + s) * 4194304 + g) * 65536 + q % 65536) % W := by
  simp only [combine, mod_shl_add_mod, Nat.reducePow]

theorem split_eq (id : Nat) :
    split id =
      ⟨id / 65536 / 4194304 / 64 / 64 / 32 / 32 % 16, id / 65536 / 4194304 / 64 / 64 / 32 % 32,
       id / 65536 / 4194304 / 64 / 64 % 32, id / 65536 / 4194304 / 64 % 64, id / 65536 / 4194304 % 64,
       id / 65536 % 4194304, id % 65536⟩ := by
  simp only [split, Nat.div_div_eq_div_mul, Nat.reducePow, Nat.reduceMul]

theorem shl_add_div_mod {v b : Nat} (hv : v < b) (a : Nat) : (a * b + v) / b = a ∧ (a * b + v) % b = v :=
  ⟨by rw [Nat.add_comm, Nat.add_mul_div_right _ _ (by omega), Nat.div_eq_of_lt hv, Nat.zero_add],
   Nat.mul_add_mod_of_lt hv⟩

theorem shl_add_lt {x y a b : Nat} (hx : x < a) (hy : y < b) : x * b + y < a * b :=
  calc x * b + y < x * b + b := Nat.add_lt_add_left hy _
    _ = (x + 1) * b := (Nat.succ_mul x b).symm
    _ ≤ a * b := Nat.mul_le_mul_right b hx

theorem combineP_eq (p : Parts) (h : InRange p) :
    combineP p =
      (((((p.month * 32 + p.day) * 32 + p.hour) * 64 + p.minute) * 64 + p.second) * 4194304 + p.gate) * 65536 + p.seq ∧
    combineP p < 2 ^ 64 := by
  obtain ⟨h1, h2, h3, h4, h5, h6, h7⟩ := h
  have lt := shl_add_lt (shl_add_lt (shl_add_lt (shl_add_lt (shl_add_lt (shl_add_lt h1 h2) h3) h4) h5) h6) h7
  rw [combineP, combine_eq_mod, Nat.mod_eq_of_lt h7, Nat.mod_eq_of_lt (show _ < W from lt)]
  exact ⟨rfl, lt⟩

/-- **field_positions** : composing in-range fields puts each at the bit positions the CMPP
    specification assigns (month bits 64–61, day 60–56, hour 55–51, minute 50–45, second 44–39,
    gateway 38–17, sequence 16–1) -/
theorem C17_field_positions (p : Parts) (h : InRange p) :
    combineP p = p.month * 2 ^ 60 + p.day * 2 ^ 55 + p.hour * 2 ^ 50 + p.minute * 2 ^ 44 +
      p.second * 2 ^ 38 + p.gate * 2 ^ 16 + p.seq ∧ combineP p < 2 ^ 64 := by
  refine ⟨?_, (combineP_eq p h).2⟩
  rw [(combineP_eq p h).1]
  simp only [Nat.add_mul, Nat.mul_assoc, Nat.reduceMul, Nat.reducePow]

/-- **split_combine** : splitting a composed id returns the same seven values -/
theorem C17_split_combine (p : Parts) (h : InRange p) : split (combineP p) = p := by
  rw [(combineP_eq p h).1, split_eq]
  obtain ⟨h1, h2, h3, h4, h5, h6, h7⟩ := h
  simp only [shl_add_div_mod (b := 65536) h7, shl_add_div_mod (b := 4194304) h6, shl_add_div_mod h5, shl_add_div_mod h4,
    shl_add_div_mod h3, shl_add_div_mod h2, Nat.mod_eq_of_lt h1]

theorem C17_split_in_range (id : Nat) : InRange (split id) :=
  ⟨Nat.mod_lt _ (by decide), Nat.mod_lt _ (by decide), Nat.mod_lt _ (by decide), Nat.mod_lt _ (by decide),
   Nat.mod_lt _ (by decide), Nat.mod_lt _ (by decide), Nat.mod_lt _ (by decide)⟩

/-- **combine_split** : splitting then composing any 64-bit id is the identity -/
theorem C17_combine_split (id : Nat) (h : id < 2 ^ 64) : combineP (split id) = id := by
  have top : id / 65536 / 4194304 / 64 / 64 / 32 / 32 < 16 := by
    simp only [Nat.div_div_eq_div_mul]; exact Nat.div_lt_of_lt_mul h
  simp only [combineP, split_eq, combine_eq_mod, Nat.mod_eq_of_lt top, Nat.mod_mod, Nat.div_add_mod']
  exact Nat.mod_eq_of_lt h

theorem decDigits_isDigits (n t : Nat) : isDigits (decDigits n t) = true := by
  simpa [isDigits] using fun b (hb : b ∈ decDigits n t) => decDigits_digit hb

theorem isDigits_append (a b : Bytes) : isDigits (a ++ b) = (isDigits a && isDigits b) := by
  simp [isDigits]

/-- **string_roundtrip** : the decimal string form of a non-zero id parses back to the same id
    (each field's maximum fits its printed width: 15, 31, 31, 63, 63 < 100; 2^22-1 < 10^7; 65535 < 10^5) -/
theorem C17_string_roundtrip (id : Nat) (h : id < 2 ^ 64) (h0 : id ≠ 0) : parse (format id) = id := by
  obtain ⟨h1, h2, h3, h4, h5, h6, h7⟩ := C17_split_in_range id
  have L := decDigits_length
  have hlen : (format id).length = 22 := by simp [format, h0, L]
  have hdig : isDigits (format id) = true := by simp [format, h0, isDigits_append, decDigits_isDigits]
  rw [parse, if_pos ⟨hlen, hdig⟩]
  -- each `(s.drop o).take w` is the field that starts at `o`
  simp only [format, if_neg h0, List.append_assoc, drop_add_append (L 2 _), drop_add_append (L 7 _), List.drop_zero,
    List.take_left' (L 2 _), List.take_left' (L 7 _), List.take_of_length_le (Nat.le_of_eq (L 5 _))]
  simp (disch := omega) only [parseDec_decDigits]
  exact C17_combine_split id h

example : InRange ⟨12, 31, 23, 59, 59, 4194303, 65535⟩ := by simp [InRange]
example : combineP ⟨12, 31, 23, 59, 59, 4194303, 65535⟩ = 12 * 2 ^ 60 + 31 * 2 ^ 55 + 23 * 2 ^ 50 + 59 * 2 ^ 44 + 59 * 2 ^ 38 + 4194303 * 2 ^ 16 + 65535 := by decide

/-! ### the model is the source: `CombineMsgID` / `SplitMsgID` translated statement by statement

  `Gen.cmpp_CombineMsgID` / `Gen.cmpp_SplitMsgID` are regenerated from `cmpp/msgid.go` on every run
  (`go/extract/funcs.go`: straight-line unsigned arithmetic, wrap-around explicit, closed statement
  set).  The theorems below identify them with the hand-written model for all 64-bit arguments, so
  every C17 theorem is a theorem about the code as it stands. -/

/-- the masks of `SplitMsgID` are `2 ^ n - 1` for the field widths `n` -/
theorem and_masks (x : Nat) :
    x &&& 15 = x % 16 ∧ x &&& 31 = x % 32 ∧ x &&& 63 = x % 64 ∧ x &&& 4194303 = x % 2 ^ 22 ∧
    x &&& 65535 = x % 2 ^ 16 :=
  ⟨Nat.and_two_pow_sub_one_eq_mod x 4, Nat.and_two_pow_sub_one_eq_mod x 5, Nat.and_two_pow_sub_one_eq_mod x 6,
   Nat.and_two_pow_sub_one_eq_mod x 22, Nat.and_two_pow_sub_one_eq_mod x 16⟩

/-- per-run obligation: both functions are inside the translated fragment, and the format string
    shared by printer and scanner is the one the model's `format` / `parse` transcribe -/
theorem C17_translated : Gen.funcsUnsupported = [] ∧ Gen.msgIDFormat = "%02d%02d%02d%02d%02d%07d%05d" := by
  decide +kernel

/-- **`CombineMsgID` is `combine`** for every uint64 argument -/
theorem C17_combine_is_source (m d h mi s g q : Nat) (hm : m < 2 ^ 64) :
    Gen.cmpp_CombineMsgID m d h mi s g q = combine m d h mi s g q := by
  simp only [Gen.cmpp_CombineMsgID, combine_eq_mod, W, Nat.shiftLeft_eq, Nat.mod_add_mod, mod_shl_add_mod]
  -- the source as translated is Horner's scheme and is closed here; `omega` is reached only by a
  -- regenerated source that composes the same value differently, which leaves linear arithmetic
  <;> omega

/-- **`SplitMsgID` is `split`** -/
theorem C17_split_is_source (id : Nat) :
    Gen.cmpp_SplitMsgID id =
      ((split id).month, (split id).day, (split id).hour, (split id).minute, (split id).second,
       (split id).gate, (split id).seq) := by
  simp only [Gen.cmpp_SplitMsgID, split, Nat.shiftRight_eq_div_pow, and_masks]
  -- likewise: what follows is for a regenerated source that shifts step by step
  -- (`msgID >>= 16; … msgID & mask`), which leaves nested divisions, again linear arithmetic
  <;> (simp only [Prod.mk.injEq]; repeat' apply And.intro) <;> (first | trivial | omega)

/-- **split ∘ combine on the source functions**: in-range fields come back -/
theorem C17_source_split_combine (p : Parts) (h : InRange p) :
    Gen.cmpp_SplitMsgID (Gen.cmpp_CombineMsgID p.month p.day p.hour p.minute p.second p.gate p.seq)
      = (p.month, p.day, p.hour, p.minute, p.second, p.gate, p.seq) := by
  have hm : p.month < 2 ^ 64 := by have := h.1; omega
  rw [C17_combine_is_source _ _ _ _ _ _ _ hm, C17_split_is_source]
  have := C17_split_combine p h
  simp only [combineP] at this
  rw [this]

/-- **combine ∘ split on the source functions**: the identity on all 2^64 ids -/
theorem C17_source_combine_split (id : Nat) (h : id < 2 ^ 64) :
    (match Gen.cmpp_SplitMsgID id with
     | (m, d, hh, mi, s, g, q) => Gen.cmpp_CombineMsgID m d hh mi s g q) = id := by
  rw [C17_split_is_source]
  simp only
  have hr := C17_split_in_range id
  rw [C17_combine_is_source _ _ _ _ _ _ _ (by have := hr.1; omega)]
  exact C17_combine_split id h

end SmsVerif.C17

section
open SmsVerif.C17
#print axioms C17_field_positions
#print axioms C17_split_combine
#print axioms C17_split_in_range
#print axioms C17_combine_split
#print axioms C17_string_roundtrip
#print axioms C17_translated
#print axioms C17_combine_is_source
#print axioms C17_split_is_source
#print axioms C17_source_split_combine
#print axioms C17_source_combine_split
end
