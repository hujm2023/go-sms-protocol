/-
  C13 — concurrent use on distinct values equals sequential use.

  The interleaving model of `Model/Own.lean`: any number of goroutines, each running one encoder
  call as a sequence of atomic steps (take a pooled buffer and reset it; append one octet per
  step; copy the result out and put the buffer back), scheduled in an arbitrary order given as a
  list of thread indices.  `C13_concurrent_equals_sequential` and `C13_buffers_exclusive` hold for
  every schedule, every number of threads and every payload.

  What the model cannot exhibit: races inside `sync.Pool` / `bytebufferpool` themselves, torn
  reads, reordering allowed by the Go memory model, and package-level tables written after
  `init`.  Those are covered by the race-detector runs of the check (sampled schedules).
-/
import SmsVerif.Lemmas.Own
import SmsVerif.Gen.Lifecycle

namespace SmsVerif.C13
open SmsVerif SmsVerif.Own SmsVerif.Own.Heap

/-- the allocation a thread owns: its pooled buffer while writing, its result when done -/
def own : Th → Option Nat
  | .idle _ => none
  | .writing b _ _ => some b
  | .done l _ => some l

/-- the payload a thread was asked to encode -/
def payload : Th → Bytes
  | .idle todo => todo
  | .writing _ _ all => all
  | .done _ all => all

/-- the thread's storage holds what it has produced so far -/
def ThOK (h : Heap) : Th → Prop
  | .idle _ => True
  | .writing b rest all => h.read b ++ rest = all
  | .done l all => h.read l = all

structure SInv (s : Sys) : Prop where
  content : ∀ (t : Nat) (th : Th), s.ths[t]? = some th → ThOK s.heap th
  owned : ∀ (t : Nat) (th : Th) (l : Nat), s.ths[t]? = some th → own th = some l → l < s.heap.mem.length ∧ l ∉ s.free
  excl : ∀ (t1 t2 : Nat) (th1 th2 : Th) (l : Nat), t1 ≠ t2 → s.ths[t1]? = some th1 → s.ths[t2]? = some th2 →
    own th1 = some l → own th2 ≠ some l
  freeValid : ∀ l ∈ s.free, l < s.heap.mem.length
  freeNodup : s.free.Nodup

theorem sinv_init (todos : List Bytes) : SInv { ths := todos.map .idle } := by
  have hidle : ∀ {t : Nat} {th : Th}, (todos.map Th.idle)[t]? = some th → ∃ b, th = Th.idle b := by
    intro t th h
    rw [List.getElem?_map, Option.map_eq_some_iff] at h
    exact h.elim fun b hb => ⟨b, hb.2.symm⟩
  refine ⟨fun _ _ h => ?_, fun _ _ _ h ho => ?_, fun _ _ _ _ _ _ h _ ho => ?_, by simp, by simp⟩ <;>
    obtain ⟨b, rfl⟩ := hidle h
  · trivial
  · cases ho
  · cases ho

theorem ThOK_congr {h h' : Heap} {th : Th} (hk : ThOK h th)
    (hsame : ∀ l, own th = some l → h'.read l = h.read l) : ThOK h' th := by
  cases th with
  | idle _ => trivial
  | writing b rest all => simp only [ThOK] at hk ⊢; rw [hsame b rfl]; exact hk
  | done l all => simp only [ThOK] at hk ⊢; rw [hsame l rfl]; exact hk

theorem map_set_of_eq {α β} (f : α → β) {l : List α} {i : Nat} {a b : α} (h : l[i]? = some b)
    (hf : f a = f b) : (l.set i a).map f = l.map f := by
  obtain ⟨hlt, rfl⟩ := List.getElem?_eq_some_iff.1 h
  rw [List.map_set, hf, ← List.getElem_map f (h := by rwa [List.length_map])]
  exact List.set_getElem_self _

theorem step_payload (s : Sys) (t : Nat) : (s.step t).ths.map payload = s.ths.map payload := by
  unfold Sys.step
  split
  · next hget => split <;> exact map_set_of_eq payload hget rfl
  · next hget => exact map_set_of_eq payload hget rfl
  · next hget => exact map_set_of_eq payload hget rfl
  · rfl

theorem run_payload (sched : List Nat) (s : Sys) : (s.run sched).ths.map payload = s.ths.map payload := by
  induction sched generalizing s with
  | nil => rfl
  | cons t ts ih => exact (ih _).trans (step_payload s t)

/-- the allocations a thread may use: the one it holds, then the pool's.  In this order every step leaves
    the list as it is (Get moves the pool's head to the thread, an append moves nothing) or puts the new
    allocation in front (Put: the result in front of the buffer in front of the pool) -/
def region (th : Th) (free : List Nat) : List Nat := (own th).toList ++ free

theorem mem_region {th : Th} {free : List Nat} {l : Nat} : l ∈ region th free ↔ own th = some l ∨ l ∈ free := by
  rw [region, List.mem_append, Option.mem_toList]

/-- the shape shared by the three kinds of step: thread `t` moves to `th'`; its region stays as it is
    or gains one new allocation; the heap changes only there -/
theorem step_frame (s : Sys) (hi : SInv s) (t : Nat) (th th' : Th) (heap' : Heap) (free' : List Nat)
    (hget : s.ths[t]? = some th)
    (hfr : Frame (region th s.free) s.heap heap')
    (hok' : ThOK heap' th')
    (hpool : region th' free' = region th s.free ∨
      region th' free' = s.heap.mem.length :: region th s.free ∧ heap'.mem.length = s.heap.mem.length + 1) :
    SInv { heap := heap', free := free', ths := s.ths.set t th' } := by
  -- every location of the region before the step exists, and no other thread owns it
  have hP : ∀ l ∈ region th s.free, l < s.heap.mem.length ∧
      ∀ t2 th2, t2 ≠ t → s.ths[t2]? = some th2 → own th2 ≠ some l := fun l hl =>
    (mem_region.1 hl).elim
      (fun h => ⟨(hi.owned t th l hget h).1, fun t2 th2 ht h2 => hi.excl t t2 th th2 l (Ne.symm ht) hget h2 h⟩)
      (fun h => ⟨hi.freeValid l h, fun t2 th2 _ h2 ho => (hi.owned t2 th2 l h2 ho).2 h⟩)
  have hnd : (region th s.free).Nodup :=
    List.nodup_append.2 ⟨by cases own th <;> simp, hi.freeNodup,
      fun a ha b hb e => (hi.owned t th a hget (Option.mem_toList.1 ha)).2 (e ▸ hb)⟩
  -- the same after the step: a new location is beyond everything owned before
  have ⟨hP', hnd'⟩ : (∀ l ∈ region th' free', l < heap'.mem.length ∧
        ∀ t2 th2, t2 ≠ t → s.ths[t2]? = some th2 → own th2 ≠ some l) ∧ (region th' free').Nodup := by
    have hold := fun l hl => And.intro (Nat.lt_of_lt_of_le (hP l hl).1 hfr.size) (hP l hl).2
    rcases hpool with e | ⟨e, hn⟩ <;> rw [e]
    · exact ⟨hold, hnd⟩
    · exact ⟨List.forall_mem_cons.2 ⟨⟨by omega, fun t2 th2 _ h2 ho => Nat.lt_irrefl _ (hi.owned t2 th2 _ h2 ho).1⟩, hold⟩,
        List.nodup_cons.2 ⟨fun h => Nat.lt_irrefl _ (hP _ h).1, hnd⟩⟩
  have hlook : ∀ {t2 th2}, (s.ths.set t th')[t2]? = some th2 →
      t2 = t ∧ th2 = th' ∨ t2 ≠ t ∧ s.ths[t2]? = some th2 := by
    intro t2 th2 h2
    by_cases ht : t2 = t
    · subst ht
      rw [List.getElem?_set_self', hget] at h2
      exact Or.inl ⟨rfl, (Option.some.inj h2).symm⟩
    · rw [List.getElem?_set_ne (Ne.symm ht)] at h2
      exact Or.inr ⟨ht, h2⟩
  have ⟨_, hnf, hdisj⟩ := List.nodup_append.1 hnd'
  refine ⟨fun t2 th2 h2 => ?_, fun t2 th2 l h2 ho => ?_, fun t1 t2 th1 th2 l hne h1 h2 ho1 => ?_,
    fun l hl => (hP' l (mem_region.2 (Or.inr hl))).1, hnf⟩
  · rcases hlook h2 with ⟨rfl, rfl⟩ | ⟨ht, h2⟩
    · exact hok'
    · exact ThOK_congr (hi.content t2 th2 h2) fun l hl =>
        hfr.read l (hi.owned t2 th2 l h2 hl).1 fun hm => (hP l hm).2 t2 th2 ht h2 hl
  · rcases hlook h2 with ⟨rfl, rfl⟩ | ⟨ht, h2⟩
    · exact ⟨(hP' l (mem_region.2 (Or.inl ho))).1, fun h => hdisj l (Option.mem_toList.2 ho) l h rfl⟩
    · exact ⟨Nat.lt_of_lt_of_le (hi.owned t2 th2 l h2 ho).1 hfr.size,
        fun h => (hP' l (mem_region.2 (Or.inr h))).2 t2 th2 ht h2 ho⟩
  · rcases hlook h1 with ⟨rfl, rfl⟩ | ⟨e1, g1⟩
    · rcases hlook h2 with ⟨rfl, rfl⟩ | ⟨e2, g2⟩
      · exact absurd rfl hne
      · exact (hP' l (mem_region.2 (Or.inl ho1))).2 t2 th2 e2 g2
    · rcases hlook h2 with ⟨rfl, rfl⟩ | ⟨e2, g2⟩
      · exact fun ho2 => (hP' l (mem_region.2 (Or.inl ho2))).2 t1 th1 e1 g1 ho1
      · exact hi.excl t1 t2 th1 th2 l hne g1 g2 ho1

theorem step_sinv (s : Sys) (hi : SInv s) (t : Nat) : SInv (s.step t) := by
  unfold Sys.step
  split
  · -- Get + Reset
    rename_i todo hget
    split
    · rename_i l rest hfree
      have hl := hi.freeValid l (by simp [hfree])
      refine step_frame s hi t _ _ _ _ hget ((Frame.refl _ _).write (fun _ => mem_region.2 (Or.inr (hfree ▸ List.mem_cons_self))) _) ?_
        (Or.inl (by rw [hfree]; rfl))
      show (s.heap.write l []).read l ++ todo = todo
      rw [read_write_eq _ _ _ hl]; rfl
    · rename_i hfree
      refine step_frame s hi t _ _ _ _ hget ((Frame.refl _ _).alloc _) ?_
        (Or.inr ⟨by rw [hfree]; rfl, size_alloc ..⟩)
      show (s.heap.alloc []).1.read (s.heap.alloc []).2 ++ todo = todo
      rw [read_alloc_new]; rfl
  · -- append one octet to the held buffer
    rename_i b x rest all hget
    have hc : s.heap.read b ++ x :: rest = all := hi.content t _ hget
    refine step_frame s hi t _ _ _ _ hget ((Frame.refl _ _).write (fun _ => mem_region.2 (Or.inl rfl)) _) ?_ (Or.inl rfl)
    show (s.heap.write b _).read b ++ rest = all
    rw [read_write_eq _ _ _ (hi.owned t _ b hget rfl).1, List.append_assoc]; exact hc
  · -- copy-out, then Put
    rename_i b all hget
    have hc : s.heap.read b ++ [] = all := hi.content t _ hget
    refine step_frame s hi t _ _ _ _ hget ((Frame.refl _ _).alloc _) ?_ (Or.inr ⟨rfl, size_alloc ..⟩)
    show (s.heap.alloc (s.heap.read b)).1.read (s.heap.alloc (s.heap.read b)).2 = all
    rw [read_alloc_new, ← hc, List.append_nil]
  · exact hi

theorem run_sinv (sched : List Nat) (s : Sys) (h : SInv s) : SInv (s.run sched) := by
  induction sched generalizing s with
  | nil => exact h
  | cons t ts ih => exact ih _ (step_sinv s h t)

/-- **C13_concurrent_equals_sequential**: for every number of goroutines, every payload and every
    schedule, a goroutine that has finished holds exactly the octets it was asked to encode — the
    result of running it alone — and while it is still running its buffer holds exactly the octets
    it has written so far. -/
theorem C13_concurrent_equals_sequential (todos : List Bytes) (sched : List Nat) (t : Nat) (th : Th)
    (h : ((Sys.run { ths := todos.map .idle } sched).ths)[t]? = some th) :
    todos[t]? = some (payload th) ∧
    match th with
    | .done l _ => (Sys.run { ths := todos.map .idle } sched).heap.read l = payload th
    | .writing b rest _ => (Sys.run { ths := todos.map .idle } sched).heap.read b ++ rest = payload th
    | .idle _ => True := by
  constructor
  · have := congrArg (·[t]?) (run_payload sched { ths := todos.map .idle })
    simp only [List.getElem?_map, h, Option.map_map, Option.map_some] at this
    rw [this]; exact Option.map_id'.symm
  · have := (run_sinv sched _ (sinv_init todos)).content t th h
    cases th <;> exact this

/-- **C13_buffers_exclusive**: under every schedule two goroutines never hold the same buffer, and a
    held buffer or a returned result is never in the pool (no shared mutable storage: race-free at
    the granularity of the model) -/
theorem C13_buffers_exclusive (todos : List Bytes) (sched : List Nat) (t1 t2 : Nat) (th1 th2 : Th) (l : Nat)
    (hne : t1 ≠ t2)
    (h1 : ((Sys.run { ths := todos.map .idle } sched).ths)[t1]? = some th1)
    (h2 : ((Sys.run { ths := todos.map .idle } sched).ths)[t2]? = some th2)
    (ho : own th1 = some l) :
    own th2 ≠ some l ∧ l ∉ (Sys.run { ths := todos.map .idle } sched).free := by
  have hinv := run_sinv sched _ (sinv_init todos)
  exact ⟨hinv.excl t1 t2 th1 th2 l hne h1 h2 ho, (hinv.owned t1 th1 l h1 ho).2⟩

/-- every pooled writer / reader / stringer the library acquires (`Gen.poolUses`: one entry per
    acquisition site, regenerated on every run) is used by one function activation only: never
    returned, aliased, stored or captured by a closure or a go statement; released at most once, and
    only by a deferred call (so never before a use) -/
theorem C13_pool_discipline :
    Gen.poolUses.all (fun u => !u.escapes && u.directReleases == 0 && decide (u.deferredReleases ≤ 1)) = true := by
  decide +kernel

/-- objects are handed back to a pool only by the four release functions, once each: no other
    function (an error path, say) returns a buffer that a deferred Release will return again -/
theorem C13_put_sites : Gen.poolPuts =
    [("logger.(*systemLogger).addPrefix", "(*sync.Pool).Put"),
     ("packet.(*Writer).Release", "github.com/valyala/bytebufferpool.Put"),
     ("cmpp.Utf8ToUcs2Pooled", "(*github.com/valyala/bytebufferpool.Pool).Put"),
     ("packet.restoreStringBuilder", "(*sync.Pool).Put")] := rfl

/-- the copy-out step of the model: `Writer.Bytes` and `Writer.BytesWithLength` return a slice made
    in the call and filled by `copy`, never the pooled buffer -/
theorem C13_copy_out : Gen.copyOuts = [("packet.(*Writer).Bytes", true), ("packet.(*Writer).BytesWithLength", true)] :=
  rfl

/-- **C13_shared_state** (regenerated from the syntax and types of the working tree, `go/extract/globals.go`):
    the only package-level variables any function outside `init` can write — by assignment to or
    through them, `++`, `&v`, a pointer-receiver method, `copy`/`delete`, an alias, or by handing a
    table to foreign code — are the three configuration variables of the logger package, written by
    their setters (set-up API, not one of the calls the property quantifies over); and the only
    self-synchronising shared objects are the three pools.  Every other package-level variable is
    therefore read-only after initialisation: the threads of the model share the pool and nothing
    else.  A lookup table grown on demand, a cache or a counter changes `globalWrites`. -/
theorem C13_shared_state :
    Gen.globalWrites = [("logger.logger", "logger.SetLogger", "assign"),
                        ("logger.silentMode", "logger.SetSilentMode", "assign"),
                        ("logger.sysLogger", "logger.SetSystemLogger", "assign")] ∧
    (Gen.packageVars.filter (fun v => v.2.1 == "pool")).map (·.1)
      = ["cmpp.ucs2BytesBufferPool", "logger.builderPool", "packet.stringBuilderPool"] :=
  ⟨rfl, rfl⟩

def runEarly (s : Sys) (sched : List Nat) : Sys := sched.foldl Sys.stepEarlyPut s

/-- two goroutines, the first finishes and (wrongly) returns a view of the buffer it has already put
    back; the second takes that buffer and overwrites it: the first result is no longer its own octets -/
example :
    let s := runEarly { ths := [.idle [1, 2], .idle [9, 9]] } [0, 0, 0, 0, 1, 1, 1, 1]
    s.ths.map (fun th => match th with | .done l all => (s.heap.read l, all) | _ => ([], [])) =
      [([9, 9], [1, 2]), ([9, 9], [9, 9])] := by decide

/-- the same schedule in the model of the code -/
example :
    let s := Sys.run { ths := [.idle [1, 2], .idle [9, 9]] } [0, 0, 0, 0, 1, 1, 1, 1]
    s.ths.map (fun th => match th with | .done l all => (s.heap.read l, all) | _ => ([], [])) =
      [([1, 2], [1, 2]), ([9, 9], [9, 9])] := by decide

end SmsVerif.C13

#print axioms SmsVerif.C13.C13_concurrent_equals_sequential
#print axioms SmsVerif.C13.C13_buffers_exclusive
#print axioms SmsVerif.C13.step_sinv
#print axioms SmsVerif.C13.C13_pool_discipline
#print axioms SmsVerif.C13.C13_put_sites
#print axioms SmsVerif.C13.C13_copy_out
#print axioms SmsVerif.C13.C13_shared_state
