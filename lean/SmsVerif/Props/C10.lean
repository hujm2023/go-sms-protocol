/-
  C10 — responses pair with their requests and dispatch is consistent with encoding.

  Everything about the code comes from the regenerated tables `Gen.metas`, `Gen.dispatchers`
  and `Gen.allPdus`; the request/response pairing demanded by the protocol documents is the
  hand-written table `specPairs`.
-/
import SmsVerif.Model.Meta
import SmsVerif.Gen.Tables
import SmsVerif.Gen.Layouts

namespace SmsVerif.C10
open SmsVerif

def respBit : Nat := 0x80000000

/-- request ↦ response, per the protocol documents (SMPP 3.4 §4, CMPP 2.0/3.0 §7/8, SGIP 1.2 §4, SMGP 3.0 §6) -/
def specPairs : List (String × String) :=
  [("cmpp20.PduConnect", "cmpp20.PduConnectResp"), ("cmpp20.PduTerminate", "cmpp20.PduTerminateResp"),
   ("cmpp20.PduSubmit", "cmpp20.PduSubmitResp"), ("cmpp20.PduDeliver", "cmpp20.PduDeliverResp"),
   ("cmpp20.PduQuery", "cmpp20.PduQueryResp"), ("cmpp20.PduActiveTest", "cmpp20.PduActiveTestResp"),
   ("cmpp30.Connect", "cmpp30.ConnectResp"), ("cmpp30.Terminate", "cmpp30.TerminateResp"),
   ("cmpp30.Submit", "cmpp30.SubmitResp"), ("cmpp30.Deliver", "cmpp30.DeliverResp"),
   ("cmpp30.Query", "cmpp30.QueryResp"), ("cmpp30.Cancel", "cmpp30.CancelResp"),
   ("cmpp30.ActiveTest", "cmpp30.ActiveTestResp"),
   ("sgip12.Bind", "sgip12.BindResp"), ("sgip12.Unbind", "sgip12.UnbindResp"),
   ("sgip12.Submit", "sgip12.SubmitResp"), ("sgip12.Deliver", "sgip12.DeliverResp"),
   ("sgip12.Report", "sgip12.ReportResp"),
   ("smgp30.Login", "smgp30.LoginResp"), ("smgp30.Submit", "smgp30.SubmitResp"),
   ("smgp30.Deliver", "smgp30.DeliverResp"), ("smgp30.ActiveTest", "smgp30.ActiveTestResp"),
   ("smgp30.Exit", "smgp30.ExitResp"),
   ("smpp34.Bind", "smpp34.BindResp"), ("smpp34.Unbind", "smpp34.UnBindResp"),
   ("smpp34.SubmitSm", "smpp34.SubmitSmResp"), ("smpp34.DeliverSm", "smpp34.DeliverSmResp"),
   ("smpp34.EnquireLink", "smpp34.EnquireLinkResp")]

def metaOf (n : String) : Option PduMeta := Gen.metas.find? (·.name == n)

def pdus : List PduMeta := Gen.metas.filter (·.isPdu)

def isRequest (m : PduMeta) : Bool := specPairs.any (·.1 == m.name)

/-- the response command agrees with the request command with the response bit set, for every
    value the request's header id can hold -/
def respCmdOK : CmdSpec → RespCmd → Bool
  | .const c, .const r => r == c ||| respBit
  | .hdrOr f allowed d, .byReq f' table d' =>
    f == f' && d' == d ||| respBit && table.map (·.1) == allowed.filter (· != d) &&
    table.all (fun kv => kv.2 == kv.1 ||| respBit)
  | _, _ => false

/-- what `respCmdOK` establishes, for every value `hv` of the request's header id (all 2^32 of them, which
    no `decide` reaches): the right-hand disjunct, which is the one proved — the request reports some
    command `n` and the generated response carries `n` with the response bit set -/
theorem respCmdOK_sound (c : CmdSpec) (r : RespCmd) (h : respCmdOK c r = true) (hv : Nat) :
    c.eval hv = some ((r.eval hv) - respBit) ∧ r.eval hv = ((r.eval hv) - respBit) ||| respBit ∨
    ∃ n, c.eval hv = some n ∧ r.eval hv = n ||| respBit := by
  right
  cases c <;> cases r <;> simp only [respCmdOK] at h <;> try (simp at h; done)
  · rename_i n m
    exact ⟨n, rfl, by simpa [RespCmd.eval] using h⟩
  · rename_i f allowed d f' table d'
    simp only [Bool.and_eq_true, beq_iff_eq, List.all_eq_true] at h
    obtain ⟨⟨⟨_, hd⟩, hkeys⟩, hall⟩ := h
    refine ⟨_, rfl, ?_⟩
    have hkey : hv ∈ table.map (·.1) ↔ hv ∈ allowed ∧ hv ≠ d := by simp [hkeys]
    simp only [RespCmd.eval, List.contains_iff_mem]
    cases hf : table.find? (·.1 == hv) with
    | some kv =>
      have hkv := List.mem_of_find?_eq_some hf
      obtain rfl : kv.1 = hv := by simpa using List.find?_some hf
      simp [(hkey.1 (List.mem_map_of_mem hkv)).1, hall kv hkv]
    | none =>
      -- `hv` is not a key: it is not allowed, or it is the default
      have : (if hv ∈ allowed then hv else d) = d := by
        split
        · refine Decidable.of_not_not fun hne => ?_
          obtain ⟨kv, hkv, hk⟩ := List.mem_map.1 (hkey.2 ⟨‹_›, hne⟩)
          simpa [hk] using List.find?_eq_none.1 hf kv hkv
        · rfl
      simp [this, hd]

/-- per-type obligations of a request: its generated response is the specified type, carries the
    request's sequence identifier in the field the response's own accessors use, and its command is
    the request's command with the response bit set; the response type reports that command. -/
def requestOK (m : PduMeta) : Bool :=
  match m.resp with
  | .some rt rc cf sf seqOK =>
    seqOK && specPairs.contains (m.name, rt) && respCmdOK m.cmd rc &&
    match metaOf rt with
    | some mr =>
        -- the sequence identifier lands in the field the response's accessors use; for a three-word
        -- sequence number (SGIP 1.2 §3.4: "the sequence number of a response must be the same as that of
        -- the corresponding command") every word is the request's word at the same position
        (mr.getSeq == sf || (mr.getSeq == sf ++ ".2" && m.seqWords.length == 3)) &&
        (m.seqWords == [] || m.seqWords == [(0, some 0), (1, some 1), (2, some 2)]) &&
        (m.pkg != "sgip12" || m.seqWords.length == 3) && mr.resp == .none &&
        (match mr.cmd, rc with
         | .const c, .const r => c == r
         | .hdrOr f allowed d, .byReq _ table d' => f == cf && d == d' && table.all (fun kv => allowed.contains kv.2)
         | _, _ => false)
    | none => false
  | _ => false

theorem all_ite {α} {l : List α} {p a b : α → Bool} (h : l.all (fun x => if p x then a x else b x) = true) :
    (l.filter p).all a = true ∧ (l.filter (fun x => !p x)).all b = true := by
  simp only [List.all_eq_true, List.mem_filter, Bool.not_eq_true'] at h ⊢
  exact ⟨fun x hx => by simpa [hx.2] using h x hx.1, fun x hx => by simpa [hx.2] using h x hx.1⟩

/-- both halves in one pass over the table: telling requests from responses (string comparisons
    against `specPairs`) is a large part of the work, and is done once this way -/
theorem C10_requests_and_responses :
    pdus.all (fun m => if isRequest m then requestOK m else m.resp == .none) = true := by decide +kernel

/-- **C10_resp_pairs** : `GenEmptyResponse` of every request type meets `requestOK` -/
theorem C10_resp_pairs : (pdus.filter isRequest).all requestOK = true := (all_ite C10_requests_and_responses).1

/-- **C10_responses_generate_none** : `GenEmptyResponse` of every other PDU type returns nil -/
theorem C10_responses_generate_none :
    (pdus.filter (fun m => !isRequest m)).all (fun m => m.resp == .none) = true :=
  (all_ite C10_requests_and_responses).2

/-- **C10_requests_exist** : both types of every pair in the specification table exist in the code -/
theorem C10_requests_exist : specPairs.all (fun pr => (metaOf pr.1).isSome && (metaOf pr.2).isSome) = true := by decide +kernel

/-- **C10_set_get_seq** : `SetSequenceID` assigns the header field that `GetSequenceID` returns -/
theorem C10_set_get_seq : pdus.all (fun m => m.getSeq == m.setSeq && m.getSeq != "?") = true := by decide +kernel

def cmdAt (m : PduMeta) (hv : Nat) : Option Nat := m.cmd.eval hv

/-- **C10_dispatch_consistent** : the PDU a dispatcher allocates for command id `c` reports `c` as its command -/
theorem C10_dispatch_consistent :
    Gen.dispatchers.all (fun d => d.cases.all fun ct =>
      match metaOf ct.2 with
      | some m => cmdAt m ct.1 == some ct.1
      | none => false) = true := by decide +kernel

/-- **C10_dispatch_complete** : every PDU type of a package is reachable through its dispatcher -/
theorem C10_dispatch_complete :
    pdus.all (fun m => Gen.dispatchers.any fun d => d.pkg == m.pkg && d.cases.any (·.2 == m.name)) = true := by
  decide +kernel

/-- **C10_dispatch_unknown_is_error** : every dispatcher answers a command id outside its switch with
    `ErrUnsupportedPacket`, never with a nil PDU and a nil error -/
theorem C10_dispatch_unknown_is_error : Gen.dispatchers.all (·.unknownIsError) = true := by decide +kernel

def nodupNat : List Nat → Bool
  | [] => true
  | x :: xs => !xs.contains x && nodupNat xs

/-- **C10_dispatch_cases_distinct** : no command id occurs twice in a dispatcher's switch -/
theorem C10_dispatch_cases_distinct : Gen.dispatchers.all (fun d => nodupNat (d.cases.map (·.1))) = true := by decide +kernel

/-- **C10_five_dispatchers** : the translator finds one dispatcher per package, so the theorems over
    `Gen.dispatchers` above range over all five -/
theorem C10_five_dispatchers : Gen.dispatchers.map (·.pkg) = ["cmpp20", "cmpp30", "sgip12", "smgp30", "smpp34"] := by decide +kernel

def offsetGo (f : String) : List Item → Nat → Option Nat
  | [], _ => none
  | .num k g _ :: rest, off => if g == f then some off else offsetGo f rest (off + k)
  | .asg _ _ :: rest, off => offsetGo f rest off
  | it :: rest, off => if it.minLen == 0 then none else offsetGo f rest (off + it.minLen)

/-- wire offset of the integer field `f` in the encoded image -/
def offsetOf (p : PduDesc) (f : String) : Option Nat :=
  match p.items with
  | none => none
  | some (_, its) => offsetGo f its (if p.fin == .withLength then 4 else 0)

def layoutOf (n : String) : Option PduDesc := Gen.allPdus.find? (·.name == n)

/-- where the documents put the sequence number: after length, command id and (SMPP) status.  SGIP's is
    three words at 8, 12, 16; `Get/SetSequenceID` use the third. -/
def seqOffsetSpec (pkg : String) : Nat :=
  if pkg == "smpp34" then 12 else if pkg == "sgip12" then 16 else 8

/-- **C10_seq_and_cmd_offsets** : the sequence field that `Set/GetSequenceID` use sits at the header's sequence offset, and the
    command field the dispatcher switches on sits at offset 4 -/
theorem C10_seq_and_cmd_offsets :
    pdus.all (fun m =>
      match layoutOf m.name with
      | some p => offsetOf p m.getSeq == some (seqOffsetSpec m.pkg) &&
                  Gen.dispatchers.all (fun d => d.pkg != m.pkg || offsetOf p d.cmdField == some 4)
      | none => false) = true := by decide +kernel

end SmsVerif.C10

section
open SmsVerif.C10
#print axioms C10_resp_pairs
#print axioms respCmdOK_sound
#print axioms C10_responses_generate_none
#print axioms C10_requests_exist
#print axioms C10_set_get_seq
#print axioms C10_dispatch_consistent
#print axioms C10_dispatch_complete
#print axioms C10_dispatch_unknown_is_error
#print axioms C10_dispatch_cases_distinct
#print axioms C10_five_dispatchers
#print axioms C10_seq_and_cmd_offsets
end
