/-
  C08 — GSM 7-bit alphabet and septet packing follow 3GPP TS 23.038.

  Alphabet tables: regenerated from the Go map literals (`Gen.gsm_*`), compared with the
  hand-transcribed specification tables (`Spec.gsm*`) by `decide`.  Packing: hand model
  `Gsm7.packGo` / `unpackGo` (tied to the code by correspondence) against the arithmetic
  specification `Gsm7.packSpec`.
-/
import SmsVerif.Lemmas.Text
import SmsVerif.Lemmas.Alphabet
import SmsVerif.Lemmas.Unpack
import SmsVerif.Spec.Gsm7
import SmsVerif.Gen.Tables

namespace SmsVerif.C08
open SmsVerif SmsVerif.Gsm7

def T : Tables := ⟨Gen.gsm_forwardLookup, Gen.gsm_forwardEscape, Gen.gsm_reverseLookup, Gen.gsm_reverseEscape⟩

def swap (l : List (Nat × Nat)) : List (Nat × Nat) := l.map fun kv => (kv.2, kv.1)

def keysNodup : List (Nat × Nat) → Bool
  | [] => true
  | (k, _) :: rest => !(rest.any (·.1 == k)) && keysNodup rest

/-- `a` has distinct keys, as many entries as `b`, and holds every entry of `b`: the same finite map,
    irrespective of the order of the literal, provided the keys of `b` are distinct as well -/
def sameMap (a b : List (Nat × Nat)) : Bool :=
  a.length == b.length && keysNodup a && b.all fun kv => lookup a kv.1 == some kv.2

/-- **C08_tables_match_spec** (alphabet = TS 23.038) : the four tables of the code are exactly the default alphabet, the
    extension table and their inverses. -/
theorem C08_tables_match_spec :
    sameMap T.rev Spec.gsmDefault = true ∧ sameMap T.revEsc Spec.gsmExtension = true ∧
    sameMap T.fwd (swap Spec.gsmDefault) = true ∧ sameMap T.fwdEsc (swap Spec.gsmExtension) = true ∧
    Gen.gsm_escape = 0x1B := by decide +kernel

/-! per-run obligations over the regenerated tables -/

theorem fwd_facts : ∀ kv ∈ T.fwd, kv.2 ≠ esc ∧ kv.2 < 128 ∧ lookup T.rev kv.2 = some kv.1 := by decide +kernel
theorem fwdEsc_facts : ∀ kv ∈ T.fwdEsc, kv.2 ≠ esc ∧ kv.2 < 128 ∧ lookup T.revEsc kv.2 = some kv.1 := by decide +kernel
theorem rev_facts : ∀ kv ∈ T.rev, kv.1 < 128 ∧ kv.1 ≠ esc ∧ lookup T.fwd kv.2 = some kv.1 := by decide +kernel
theorem revEsc_facts : ∀ kv ∈ T.revEsc, kv.1 < 128 ∧ lookup T.fwd kv.2 = none ∧ lookup T.fwdEsc kv.2 = some kv.1 := by decide +kernel

theorem code_some {c : Nat} {u : List Nat} (h : (coding T).code c = some u) :
    ∃ v, v ≠ esc ∧ v < 128 ∧ (u = [v] ∧ lookup T.rev v = some c ∨ u = [esc, v] ∧ lookup T.revEsc v = some c) := by
  simp only [coding] at h
  split at h
  · rename_i v hf
    obtain ⟨h1, h2, h3⟩ := fwd_facts (c, v) (lookup_some_mem hf)
    exact ⟨v, h1, h2, .inl ⟨(Option.some.inj h).symm, h3⟩⟩
  · obtain ⟨v, he, rfl⟩ := Option.map_eq_some_iff.1 h
    obtain ⟨h1, h2, h3⟩ := fwdEsc_facts (c, v) (lookup_some_mem he)
    exact ⟨v, h1, h2, .inr ⟨rfl, h3⟩⟩

theorem step_code (c : Nat) (u rest : List Nat) (h : (coding T).code c = some u) :
    (coding T).step (u ++ rest) = some (c, rest) := by
  obtain ⟨v, hne, _, ⟨rfl, hr⟩ | ⟨rfl, hr⟩⟩ := code_some h <;> simp [coding, hne, hr]

theorem code_ne_nil (c : Nat) (u : List Nat) (h : (coding T).code c = some u) : u ≠ [] := by
  obtain ⟨v, _, _, ⟨rfl, _⟩ | ⟨rfl, _⟩⟩ := code_some h <;> simp

/-- **C08_encode_decode** : every text the encoder accepts decodes back to exactly itself. -/
theorem C08_encode_decode (text : List Nat) (s : List Nat) (h : encode T text = some s) : decode T s = some text :=
  decode_of_decodeAll T _ s text
    (Text.decodeAll_encodeAll (coding T) step_code code_ne_nil text s (encode_eq T text ▸ h) _ (Nat.lt_succ_self _))

/-- **C08_encode_range** : what `Encode` emits are septets -/
theorem C08_encode_range (text s : List Nat) (h : encode T text = some s) : ∀ b ∈ s, b < 128 := by
  obtain ⟨hall, rfl⟩ := (Text.encodeAll_eq_some_iff (coding T) text s).1 (encode_eq T text ▸ h)
  simp only [List.mem_flatten, List.mem_map]
  rintro b ⟨_, ⟨c, hc, rfl⟩, hb⟩
  obtain ⟨u, hu⟩ := hall c hc
  rw [hu] at hb
  obtain ⟨v, _, hv, ⟨rfl, _⟩ | ⟨rfl, _⟩⟩ := code_some hu <;> simp [esc] at hb <;> omega

/-- **C08_encode_refuses** : a character outside the repertoire makes encoding fail — it is never
    replaced or dropped. -/
theorem C08_encode_refuses (pre post : List Nat) (c : Nat)
    (h1 : lookup T.fwd c = none) (h2 : lookup T.fwdEsc c = none) : encode T (pre ++ c :: post) = none :=
  encode_eq T _ ▸ Text.encodeAll_none (coding T) pre post c (by simp [coding, h1, h2])

/-- **C08_validators_agree** : `IsValidGSM7String` and `ValidateGSM7String` agree with encodability
    (`ValidateGSM7Buffer`, `Gsm7.invalidBytes`, is compared with the code only) -/
theorem C08_validators_agree (text : List Nat) :
    validText T text = (encode T text).isSome ∧ (invalidChars T text = [] ↔ validText T text = true) := by
  constructor
  · induction text with
    | nil => simp [validText, encode]
    | cons c cs ih =>
      simp only [validText, List.all_cons] at ih ⊢
      simp only [encode]
      cases lookup T.fwd c <;> cases lookup T.fwdEsc c <;> simp [ih, Option.isSome_map]
  · simp only [invalidChars, validText, List.filter_eq_nil_iff, List.all_eq_true, Bool.not_eq_true',
      Bool.not_eq_false]

/-- **C08_decode_rejects** : a lone escape, an escape followed by a septet that is not in the extension
    table, and any value outside 0..0x7F are refused. -/
theorem C08_decode_rejects :
    decode T [esc] = none ∧
    (∀ e rest, lookup T.revEsc e = none → decode T (esc :: e :: rest) = none) ∧
    (∀ b rest, 128 ≤ b → decode T (b :: rest) = none) := by
  refine ⟨by decide, ?_, ?_⟩
  · intro e rest h; rw [decode_esc]; simp [h]
  · intro b rest hb
    have hne : b ≠ esc := by unfold esc; omega
    have hnone : lookup T.rev b = none := by
      cases h : lookup T.rev b with
      | none => rfl
      | some v => have := (rev_facts (b, v) (lookup_some_mem h)).1; simp at this; omega
    rw [decode_cons_ne T b rest hne]
    simp [hnone]

/-- **C08_alphabet_complete** : every septet value 0..0x7F except ESC is a character, and exactly ten
    escapes are -/
theorem C08_alphabet_complete :
    (∀ b, b < 128 → b ≠ esc → (lookup T.rev b).isSome = true) ∧ T.revEsc.length = 10 ∧ T.rev.length = 127 := by
  refine ⟨by decide +kernel, by decide +kernel, by decide +kernel⟩

/-- **C08_pack_length** : n septets pack into ⌈7n/8⌉ octets. -/
theorem C08_pack_length (s : List Nat) : (packGo s).length = (7 * s.length + 7) / 8 := by
  unfold packGo
  split
  · rw [setLast_length, packBlocks_length]
  · exact packBlocks_length s

/-- the specification packer has the same length by construction -/
theorem C08_packSpec_length (s : List Nat) : (packSpec s).length = (7 * s.length + 7) / 8 := by
  simp [packSpec, octetsLE_length]

/-- **C08_pack_is_spec** (pack = TS 23.038 bit stream): for every septet string the block algorithm of
    `gsm7encoding.Pack` (masks, shifts and ors on bytes) yields exactly the specified octets: septet
    `i` in bits `7i..7i+6` of the little-endian stream, ⌈7n/8⌉ octets, zero fill, CR in the seven
    spare bits when n ≡ 7 (mod 8) -/
theorem C08_pack_is_spec (s : List Nat) (h : ∀ x ∈ s, x < 128) : packGo s = packSpec s :=
  -- `h` is not needed: `Pack` and the specification both ignore what lies above bit 6 of a septet
  (fun _ => packGo_eq_spec s) h

/-- **C08_handset_reads_back** (interoperability): a receiver that knows the septet count (it is in the TP-UDL field) reads
    every septet back from what `Pack` produced -/
theorem C08_handset_reads_back (s : List Nat) (h : ∀ x ∈ s, x < 128) : unpackSpec s.length (packGo s) = s := by
  rw [packGo_eq_spec s]; exact unpackSpec_packSpec s h

/-- **C08_unpack_pack** : the library's own unpacker, which is not told the septet count, gives the
    septets back outside two situations in which the packed octets do not determine how many septets
    there are (that each of the two does lose a septet is shown on one message each, below) -/
theorem C08_unpack_pack (s : List Nat) (h : ∀ x ∈ s, x < 128) (ha : endsInLostAt s = false)
    (hcr : ¬ (s.length % 8 = 0 ∧ s.getLast? = some 0x0D)) : unpackGo (packGo s) = s :=
  unpackGo_packGo s h ha hcr

example : encode T [49, 50, 64, 91, 8364] = some [0x31, 0x32, 0x00, 0x1B, 0x3C, 0x1B, 0x65] := by decide

example : packGo [0x31, 0x32, 0x33, 0x34, 0x35, 0x36, 0x37] = [0x31, 0xD9, 0x8C, 0x56, 0xB3, 0xDD, 0x1A] := by decide
example : packGo [0x31, 0x32, 0x33, 0x34, 0x35, 0x36, 0x37] = packSpec [0x31, 0x32, 0x33, 0x34, 0x35, 0x36, 0x37] := by decide
example : unpackGo (packGo [0x31, 0x32, 0x33, 0x34, 0x35, 0x36, 0x37, 0x00, 0x61]) = [0x31, 0x32, 0x33, 0x34, 0x35, 0x36, 0x37, 0x00, 0x61] := by decide

/-- the two carve-outs are real: a message of eight septets ending in `@` after a septet below 64
    loses the `@`; one ending in CR loses the CR -/
example : unpackGo (packGo [1, 2, 3, 4, 5, 6, 7, 0]) = [1, 2, 3, 4, 5, 6, 7] := by decide
example : unpackGo (packGo [1, 2, 3, 4, 5, 6, 7, 0x0D]) = [1, 2, 3, 4, 5, 6, 7] := by decide
/-- … and `@` after a septet of 64 or more survives -/
example : unpackGo (packGo [1, 2, 3, 4, 5, 6, 64, 0]) = [1, 2, 3, 4, 5, 6, 64, 0] := by decide

end SmsVerif.C08

section
open SmsVerif.C08
#print axioms C08_tables_match_spec
#print axioms C08_encode_decode
#print axioms C08_encode_range
#print axioms C08_encode_refuses
#print axioms C08_validators_agree
#print axioms C08_decode_rejects
#print axioms C08_alphabet_complete
#print axioms C08_pack_length
#print axioms C08_packSpec_length
#print axioms C08_pack_is_spec
#print axioms C08_handset_reads_back
#print axioms C08_unpack_pack
end
