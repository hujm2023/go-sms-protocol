/-
  C09 — the batch encoder returns the cheapest usable coding, deterministically.

  The adversary (map iteration order, goroutine completion, the sorting routine) is a permutation the
  theorems quantify over; the model (`Batch.build`) picks with `pickMin`, which chooses the same candidate
  (`pickMin_isMin`, `isMin_unique`).  That the goroutines share no state is outside the model (C13).
-/
import SmsVerif.Model.Batch
import SmsVerif.Gen.Tables

namespace SmsVerif.C09
open SmsVerif SmsVerif.Batch

/-- candidates of one request: pairwise different (parts, priority) keys.  A hypothesis of the theorems
    below; it holds of distinct codings of one protocol (`Build` keeps the candidates in a map) because
    priorities are injective (`C09_priorities_injective`) — that step is not made in Lean, a `Cand` carries
    its priority as a free field. -/
def DistinctKeys (s : List Cand) : Prop :=
  s.Pairwise fun a b => ¬ (a.parts = b.parts ∧ a.prio = b.prio)

def IsMin (s : List Cand) (m : Cand) : Prop := m ∈ s ∧ ∀ x ∈ s, x = m ∨ less m x

/-! `less` is a strict order on the keys (parts, priority), total on distinct keys; an element
    that nothing beats is therefore the minimum, and the minimum is unique.  Both the head of a
    sorted permutation and `pickMin` are elements that nothing beats. -/

theorem less_asymm (a b : Cand) (h : less a b) : ¬ less b a := by
  unfold less at *; omega

theorem less_irrefl (a : Cand) : ¬ less a a := fun h => less_asymm a a h h

theorem less_total (a b : Cand) (h : ¬ (a.parts = b.parts ∧ a.prio = b.prio)) : less a b ∨ less b a := by
  unfold less; omega

theorem not_less_trans {a b c : Cand} (hab : ¬ less a b) (hbc : ¬ less b c) : ¬ less a c := by
  unfold less at *; omega

theorem isMin_unique (s : List Cand) (m m' : Cand) (h : IsMin s m) (h' : IsMin s m') : m = m' := by
  rcases h.2 m' h'.1 with e | l
  · exact e.symm
  · rcases h'.2 m h.1 with e | l'
    · exact e
    · exact absurd l' (less_asymm _ _ l)

theorem DistinctKeys.eq_or {s : List Cand} (hd : DistinctKeys s) :
    ∀ ⦃a⦄, a ∈ s → ∀ ⦃b⦄, b ∈ s → a = b ∨ ¬ (a.parts = b.parts ∧ a.prio = b.prio) :=
  List.Pairwise.forall_of_forall_of_flip (fun _ _ => .inl rfl) (hd.imp .inr)
    (hd.imp fun h => .inr fun ⟨h1, h2⟩ => h ⟨h1.symm, h2.symm⟩)

theorem isMin_of_none_less {s : List Cand} {m : Cand} (hd : DistinctKeys s) (hm : m ∈ s)
    (h : ∀ x ∈ s, ¬ less x m) : IsMin s m :=
  ⟨hm, fun x hx => (hd.eq_or hx hm).imp id fun hk => (less_total x m hk).resolve_left (h x hx)⟩

/-- **C09_pick_is_min** : whatever enumeration order the runtime chose and whatever permutation the
    sorting routine produced — as long as it honours `sort.Sort`'s contract (a permutation of its
    input, no later element `Less` than an earlier one) — the head is the cheapest usable candidate. -/
theorem C09_pick_is_min (usable out : List Cand) (hperm : out.Perm usable) (hd : DistinctKeys usable)
    (hsorted : out.Pairwise fun a b => ¬ less b a) (m : Cand) (hm : out.head? = some m) : IsMin usable m := by
  cases out with
  | nil => simp at hm
  | cons x rest =>
    obtain rfl : x = m := by simpa using hm
    have h : ∀ y ∈ x :: rest, ¬ less y x :=
      List.forall_mem_cons.2 ⟨less_irrefl x, (List.pairwise_cons.1 hsorted).1⟩
    exact isMin_of_none_less hd (hperm.mem_iff.1 (.head _)) fun y hy => h y (hperm.mem_iff.2 hy)

/-- **C09_order_independent** : two runs on the same candidates, enumerated and sorted differently,
    return the same candidate (duplicates are gone before this point: the candidates are the keys of a map) -/
theorem C09_order_independent (usable out1 out2 : List Cand) (h1 : out1.Perm usable) (h2 : out2.Perm usable)
    (hd : DistinctKeys usable) (s1 : out1.Pairwise fun a b => ¬ less b a) (s2 : out2.Pairwise fun a b => ¬ less b a)
    (m1 m2 : Cand) (e1 : out1.head? = some m1) (e2 : out2.head? = some m2) : m1 = m2 :=
  isMin_unique usable m1 m2 (C09_pick_is_min usable out1 h1 hd s1 m1 e1) (C09_pick_is_min usable out2 h2 hd s2 m2 e2)

theorem pickMin_none (s : List Cand) : pickMin s = none ↔ s = [] := by
  cases s with
  | nil => simp [pickMin]
  | cons x xs => simp only [pickMin]; split <;> (try split) <;> simp

theorem pickMin_none_less (s : List Cand) (m : Cand) (h : pickMin s = some m) : m ∈ s ∧ ∀ x ∈ s, ¬ less x m := by
  induction s generalizing m with
  | nil => simp [pickMin] at h
  | cons c rest ih =>
    simp only [pickMin] at h
    cases hr : pickMin rest with
    | none =>
      obtain rfl : c = m := by simpa [hr] using h
      obtain rfl := (pickMin_none rest).1 hr
      exact ⟨.head _, List.forall_mem_cons.2 ⟨less_irrefl c, nofun⟩⟩
    | some mr =>
      obtain ⟨hmem, hmin⟩ := ih mr hr
      simp only [hr] at h
      split at h <;> obtain rfl := Option.some.inj h
      · next hl => exact ⟨.tail _ hmem, List.forall_mem_cons.2 ⟨less_asymm _ _ hl, hmin⟩⟩
      · next hl => exact ⟨.head _, List.forall_mem_cons.2 ⟨less_irrefl c, fun x hx => not_less_trans (hmin x hx) hl⟩⟩

/-- the model's own choice (`build` picks with `pickMin`) is that minimum too -/
theorem pickMin_isMin (s : List Cand) (hd : DistinctKeys s) (m : Cand) (h : pickMin s = some m) : IsMin s m :=
  isMin_of_none_less hd (pickMin_none_less s m h).1 (pickMin_none_less s m h).2

/-- distinct keys have distinct values -/
def injective (t : List (Nat × Nat)) : Bool :=
  t.all fun a => t.all fun b => a.1 == b.1 || a.2 != b.2

/-- **C09_priorities_injective** : priorities are injective per protocol (regenerated tables), so distinct
    codings never tie completely; and the codings that have a priority are those the selection tables of
    C05 know (the key lists, in the order of the assignments in `init()`, `datacoding/codec_{cmpp,smpp}.go`) -/
theorem C09_priorities_injective :
    injective Gen.cmppDataCodingPriority = true ∧ injective Gen.smppDataCodingPriority = true ∧
    Gen.cmppDataCodingPriority.map (·.1) = [9, 8, 15, 0] ∧ Gen.smppDataCodingPriority.map (·.1) = [8, 0, 3, 1, 99] := by
  decide +kernel

/-- **C09_error_iff** : the outcome is an error exactly when the request is empty, or
    nothing usable remains (`pickMin … = none`, i.e. the filtered list is empty) and there is no UCS-2
    fallback left to try -/
theorem C09_error_iff (empty hasUcs2 fallbackOk : Bool) (cs : List Cand) :
    build empty hasUcs2 fallbackOk cs = .error ↔
      (empty = true ∨ (pickMin (cs.filter (·.can)) = none ∧ (hasUcs2 = true ∨ fallbackOk = false))) := by
  unfold build
  cases empty
  · cases hp : pickMin (cs.filter (·.can)) with
    | some c => simp
    | none => cases hasUcs2 <;> cases fallbackOk <;> simp
  · simp

/-- **C09_fallback_ucs2** : when no candidate can represent the content, UCS-2 is tried if it was not among
    them and the protocol has it; otherwise the request fails -/
theorem C09_fallback_ucs2 (hasUcs2 fallbackOk : Bool) (cs : List Cand) (h : cs.filter (·.can) = []) :
    build false hasUcs2 fallbackOk cs = (if !hasUcs2 && fallbackOk then .fallbackUcs2 else .error) := by
  simp [build, h, pickMin]

example : pickMin [⟨8, 2, true, 3⟩, ⟨0, 4, true, 2⟩, ⟨3, 8, true, 2⟩] = some ⟨0, 4, true, 2⟩ := by decide

end SmsVerif.C09

section
open SmsVerif.C09
#print axioms C09_pick_is_min
#print axioms C09_order_independent
#print axioms pickMin_isMin
#print axioms C09_priorities_injective
#print axioms pickMin_none
#print axioms C09_error_iff
#print axioms C09_fallback_ucs2
end
