/-
  C05 — text codings invert on their repertoire and refuse what they cannot represent.
  (partial: GB18030 is a golang.org/x/text table, covered by exhaustive per-scalar execution in the
  harness, not by the kernel; Windows-1252, `datacoding.Latin1`, is modelled by its code-page table.)
-/
import SmsVerif.Lemmas.Text
import SmsVerif.Props.C08

namespace SmsVerif.C05
open SmsVerif SmsVerif.Text

/-- **string_roundtrip** (generic): if reading one scalar off its own code followed by anything
    gives back that scalar and the rest, then every text the encoder accepts decodes to itself. -/
theorem string_roundtrip (c : Coding)
    (h1 : ∀ s u rest, c.code s = some u → c.step (u ++ rest) = some (s, rest))
    (hne : ∀ s u, c.code s = some u → u ≠ [])
    (text out : List Nat) (h : encodeAll c text = some out) (fuel : Nat) (hf : text.length < fuel) :
    decodeAll c fuel out = some text :=
  decodeAll_encodeAll c h1 hne text out h fuel hf

/-- **encode_refuses** (generic): one scalar outside the repertoire makes the whole encoding fail —
    never a replacement character, never a silent drop -/
theorem encode_refuses (c : Coding) (pre post : List Nat) (s : Nat) (h : c.code s = none) :
    encodeAll c (pre ++ s :: post) = none :=
  encodeAll_none c pre post s h

theorem lookupFrom_none (t : List Nat) (s i : Nat) (h : lookupFrom t s i = none) : s ∉ t := by
  induction t generalizing i with
  | nil => simp
  | cons x xs ih =>
    simp only [lookupFrom] at h
    split at h
    · simp at h
    · simp only [List.mem_cons, not_or]
      exact ⟨fun e => by simp_all, ih (i + 1) h⟩

/-- **C05_latin1_roundtrip** : every text the Windows-1252 encoder accepts decodes to itself -/
theorem C05_latin1_roundtrip (text out : List Nat) (h : encodeAll win1252 text = some out) :
    decodeAll win1252 (text.length + 1) out = some text ∧ out.length = text.length := by
  refine ⟨string_roundtrip win1252 win1252_step_code (fun s u hc => ?_) text out h _ (by omega), ?_⟩
  · obtain ⟨b, rfl, _⟩ := win1252_code_some hc
    simp
  · obtain ⟨hall, rfl⟩ := (encodeAll_eq_some_iff win1252 text out).1 h
    rw [List.length_flatten, List.map_map, List.map_congr_left (g := fun _ => 1) fun s hs => by
      obtain ⟨u, hu⟩ := hall s hs
      obtain ⟨b, rfl, _⟩ := win1252_code_some hu
      simp [hu]]
    simp [List.map_const']

/-- **C05_latin1_refuses** : anything outside U+0000..U+007F, U+00A0..U+00FF and the 27 defined table
    entries (U+0080, U+0081, U+0100, U+FFFD, a CJK ideograph, an emoji …) makes the encoding fail -/
theorem C05_latin1_refuses (pre post : List Nat) (s : Nat)
    (h1 : ¬ (s < 0x80 ∨ (0xA0 ≤ s ∧ s < 0x100))) (h2 : s ∉ win1252Hi ∨ s = 0xFFFD) :
    encodeAll win1252 (pre ++ s :: post) = none := by
  apply encode_refuses
  simp only [win1252, h1, if_false]
  split
  · rfl
  · rename_i hne
    rcases h2 with h2 | h2
    · simp only [Option.map_eq_none_iff]
      cases hl : lookupFrom win1252Hi s 0 with
      | none => rfl
      | some j => exact absurd (List.mem_of_getElem? (lookupFrom_spec _ _ _ _ hl).2) h2
    · exact absurd h2 hne

/-- **C05_latin1_table_injective** : the 27 defined entries of the table are distinct and none lies in the
    identity ranges, so decoding is injective on the octets that have a code point (the five undefined ones
    all decode to U+FFFD) -/
theorem C05_latin1_table_injective :
    (win1252Hi.filter (· ≠ 0xFFFD)).Nodup ∧ (win1252Hi.filter (· ≠ 0xFFFD)).length = 27 ∧ win1252Hi.length = 32 ∧
      ∀ c ∈ win1252Hi, ¬ (c < 0x80 ∨ (0xA0 ≤ c ∧ c < 0x100)) := by
  decide

example : encodeAll win1252 [0x61, 0x20AC, 0xE9, 0x2122] = some [0x61, 0x80, 0xE9, 0x99] := by decide
example : encodeAll win1252 [0x61, 0x100] = none := by decide
example : encodeAll win1252 [0x80] = none ∧ encodeAll win1252 [0x81] = none ∧ encodeAll win1252 [0xFFFD] = none := by decide

/-- **C05_ascii_roundtrip** : every text the ASCII encoder accepts is its own encoding and decodes to itself -/
theorem C05_ascii_roundtrip (text out : List Nat) (h : encodeAll ascii text = some out) :
    decodeAll ascii (text.length + 1) out = some text ∧ out = text := by
  refine ⟨string_roundtrip ascii (fun s u rest hc => ?_) (fun s u hc => ?_) text out h _ (by omega), ?_⟩
  · obtain ⟨hs, rfl⟩ := ascii_code_eq_some.1 hc
    simp [ascii, hs]
  · obtain ⟨_, rfl⟩ := ascii_code_eq_some.1 hc
    simp
  · obtain ⟨hall, rfl⟩ := (encodeAll_eq_some_iff ascii text out).1 h
    rw [List.map_congr_left (g := fun s => [s]) fun s hs => by
      obtain ⟨u, hu⟩ := hall s hs
      rw [hu, (ascii_code_eq_some.1 hu).2]; rfl]
    simp [← List.flatMap_def]

/-- **C05_ascii_refuses** : a scalar above U+007F makes the encoding fail -/
theorem C05_ascii_refuses (pre post : List Nat) (s : Nat) (h : 128 ≤ s) :
    encodeAll ascii (pre ++ s :: post) = none :=
  encode_refuses ascii pre post s (by simp [ascii]; omega)

/-- **C05_utf16_roundtrip** : every text of Unicode scalar values (astral planes included) encodes,
    and decodes back to itself -/
theorem C05_utf16_roundtrip (text : List Nat) (hs : ∀ c ∈ text, isScalar c = true) :
    ∃ out, encodeAll utf16 text = some out ∧ decodeAll utf16 (text.length + 1) out = some text := by
  have henc := (encodeAll_eq_some_iff utf16 text _).2 ⟨fun s h => by
    simp only [utf16, hs s h, not_true_eq_false, if_false]
    split <;> exact ⟨_, rfl⟩, rfl⟩
  exact ⟨_, henc, string_roundtrip utf16 utf16_step_code (fun _ _ => utf16_code_ne_nil) text _ henc _ (by omega)⟩

/-- **C05_utf16_refuses** : a surrogate code point is refused by the encoder.  The second clause is about the
    model only: its `step` refuses a unit that starts with a low surrogate, where the library's decoder
    (golang.org/x/text) yields U+FFFD; model and library are compared on encoder output only. -/
theorem C05_utf16_refuses :
    (∀ s, isScalar s = false → utf16.code s = none) ∧
    (∀ a b rest, 0xDC00 ≤ a * 256 + b → a * 256 + b < 0xE000 → utf16.step (a :: b :: rest) = none) := by
  refine ⟨fun s h => by simp [utf16, h], fun a b rest h1 h2 => ?_⟩
  simp only [utf16]
  have n1 : ¬ (0xD800 ≤ a * 256 + b ∧ a * 256 + b < 0xDC00) := by omega
  simp [n1, h1, h2]

/-- **C05_gsm7_roundtrip**, **C05_gsm7_refuses** : unpacked GSM 7-bit, as `C08_encode_decode` and
    `C08_encode_refuses` have it -/
theorem C05_gsm7_roundtrip (text s : List Nat) (h : Gsm7.encode C08.T text = some s) : Gsm7.decode C08.T s = some text :=
  C08.C08_encode_decode text s h

theorem C05_gsm7_refuses (pre post : List Nat) (c : Nat)
    (h1 : Gsm7.lookup C08.T.fwd c = none) (h2 : Gsm7.lookup C08.T.fwdEsc c = none) :
    Gsm7.encode C08.T (pre ++ c :: post) = none := C08.C08_encode_refuses pre post c h1 h2

/-- **C05_gsm7_packed_roundtrip** : text → septets → `Pack` → `Unpack` → septets → text gives the text
    back, outside the two end-of-message situations in which packed octets do not determine the septet
    count (the carve-out of the property) -/
theorem C05_gsm7_packed_roundtrip (text s : List Nat) (h : Gsm7.encode C08.T text = some s)
    (ha : Gsm7.endsInLostAt s = false)
    (hcr : ¬ (s.length % 8 = 0 ∧ s.getLast? = some 0x0D)) :
    Gsm7.decode C08.T (Gsm7.unpackGo (Gsm7.packGo s)) = some text := by
  rw [Gsm7.unpackGo_packGo s (C08.C08_encode_range text s h) ha hcr]
  exact C08.C08_encode_decode text s h

/-- **C05_selection_pairs** : the decoder chosen for the number that goes on the wire is the inverse of
    the encoder chosen for the library number (packed GSM 7-bit goes on the wire as 0 and is decoded as
    unpacked first — the carve-out of the property); unknown numbers are refused by both -/
theorem C05_selection_pairs :
    (∀ n, n < 256 → cmppDecoder n = cmppEncoder n) ∧
    (∀ n, n < 256 → n ≠ 99 → smppDecoder (smppWire n) = smppEncoder n) ∧
    smppDecoder (smppWire 99) = some .gsm7 ∧
    (∀ n, n < 256 → (cmppEncoder n).isSome = (n = 0 ∨ n = 8 ∨ n = 9 ∨ n = 15)) ∧
    (∀ n, n < 256 → (smppDecoder n).isSome = (n = 0 ∨ n = 1 ∨ n = 3 ∨ n = 8)) := by
  refine ⟨by decide +kernel, by decide +kernel, by decide +kernel, by decide +kernel, by decide +kernel⟩

example : encodeAll utf16 [0x61, 0x1F600, 0x4E2D] = some [0, 0x61, 0xD8, 0x3D, 0xDE, 0x00, 0x4E, 0x2D] := by decide

end SmsVerif.C05

section
open SmsVerif.C05
#print axioms string_roundtrip
#print axioms encode_refuses
#print axioms C05_ascii_roundtrip
#print axioms C05_ascii_refuses
#print axioms C05_utf16_roundtrip
#print axioms C05_utf16_refuses
#print axioms C05_latin1_roundtrip
#print axioms C05_latin1_refuses
#print axioms C05_latin1_table_injective
#print axioms C05_gsm7_roundtrip
#print axioms C05_gsm7_refuses
#print axioms C05_gsm7_packed_roundtrip
#print axioms C05_selection_pairs
end
