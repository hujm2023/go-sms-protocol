/-
  C20 — packet reader/writer primitives are mutually inverse with sticky errors.
  What holds of one primitive is in `Lemmas/Packet.lean`; the lemmas here carry it to one step of
  an operation sequence (`Writer.step`, `Reader.step`).
-/
import SmsVerif.Lemmas.Packet

namespace SmsVerif.C20
open SmsVerif

/-- well-formedness of one write operation ("the value fits the wire format") -/
def WOp.Fits : WOp → Prop
  | .num k n => n < 256 ^ k
  | .bytes _ => True
  | .cstr s => hasNul s = false
  | .fixed s n => s.length ≤ n ∧ hasNul s = false

/-- the matching read primitive -/
def mirror : WOp → ROp
  | .num k _ => .num k
  | .bytes d => .rawN d.length
  | .cstr _ => .cstr
  | .fixed _ n => .cstrN n

/-- the value the matching read must return -/
def valOf : WOp → RVal
  | .num _ n => .n n
  | .bytes d => .b d
  | .cstr s => .b s
  | .fixed s _ => .b s

/-- octets one operation appends on success -/
def opBytes : WOp → Bytes
  | .num k n => be k n
  | .bytes d => d
  | .cstr s => s ++ [0]
  | .fixed s n => s ++ zeros (n - s.length)

theorem step_sticky (w : Writer) (op : WOp) (e : PErr) (h : w.err = some e) : w.step op = w := by
  cases op with
  | num k n => exact Writer.writeNum_failed h k n
  | bytes d => exact Writer.writeBytes_failed h d
  | cstr s => exact Writer.writeCString_failed h s
  | fixed s n => exact Writer.writeFixed_failed h s n

theorem step_written (w : Writer) (op : WOp) (h : w.written = w.buf.length) :
    (w.step op).written = (w.step op).buf.length := by
  cases hw : w.err with
  | some e => rwa [step_sticky w op e hw]
  | none =>
    -- a healthy writer appends, or (an over-long fixed slot) only records the error
    have happ : ∀ bs, (w.app bs).written = (w.app bs).buf.length := fun bs => by simp [Writer.app, h]
    cases op with
    | num k n => rw [Writer.step, Writer.writeNum_ok hw]; exact happ _
    | bytes d => rw [Writer.step, Writer.writeBytes_ok hw]; exact happ _
    | cstr s => rw [Writer.step, Writer.writeCString_ok hw]; exact happ _
    | fixed s n =>
      by_cases hl : s.length ≤ n
      · rw [Writer.step, Writer.writeFixed_ok hw hl]; exact happ _
      · rw [Writer.step, Writer.writeFixed_long hw (Nat.lt_of_not_le hl)]; exact h

/-- **written_eq_len** : after any operation sequence, failed operations included, the reported
    count equals the number of octets in the buffer. -/
theorem written_eq_len (w : Writer) (ops : List WOp) (h : w.written = w.buf.length) :
    (w.run ops).written = (w.run ops).buf.length := by
  induction ops generalizing w with
  | nil => simpa [Writer.run]
  | cons op ops ih => exact ih (w.step op) (step_written w op h)

/-- **bytesWithLength_prefix** : the length-prefixed output is the 4-octet big-endian total
    followed by exactly the octets written. -/
theorem bytesWithLength_prefix (ops : List WOp) (h : (Writer.run {} ops).err = none) :
    (Writer.run {} ops).bytesWithLength
      = .ok (be 4 ((Writer.run {} ops).buf.length + 4) ++ (Writer.run {} ops).buf) := by
  have hw := written_eq_len {} ops rfl
  simp only [Writer.bytesWithLength, h, hw, Nat.sub_self, zeros, List.replicate_zero,
    List.append_nil, List.take_length]

/-- **sticky_writer** : after the first failure every later operation leaves bytes, count and the
    first error unchanged. -/
theorem sticky_writer (w : Writer) (ops : List WOp) (e : PErr) (h : w.err = some e) :
    w.run ops = w := by
  induction ops with
  | nil => rfl
  | cons op ops ih =>
    simp only [Writer.run, List.foldl_cons, step_sticky w op e h]
    exact ih

/-- a failed writer reports no bytes at all -/
theorem failed_writer_outputs (w : Writer) (e : PErr) (h : w.err = some e) :
    w.bytes = .error e ∧ w.bytesWithLength = .error e ∧ w.len = 0 := by
  simp [Writer.bytes, Writer.bytesWithLength, Writer.len, h]

/-- an over-long fixed-width value is refused (no truncated or shifted bytes) -/
theorem fixed_too_long_refused (w : Writer) (s : Bytes) (n : Nat) (h : s.length > n)
    (hw : w.err = none) : (w.writeFixed s n).err = some .tooLong ∧ (w.writeFixed s n).buf = w.buf := by
  rw [Writer.writeFixed_long hw h]; exact ⟨rfl, rfl⟩

theorem step_ok (w : Writer) (op : WOp) (hf : WOp.Fits op) (hw : w.err = none) :
    w.step op = w.app (opBytes op) := by
  cases op with
  | num k n => exact Writer.writeNum_ok hw k n
  | bytes d => exact Writer.writeBytes_ok hw d
  | cstr s => exact Writer.writeCString_ok hw s
  | fixed s n => exact Writer.writeFixed_ok hw hf.1

theorem run_ok (w : Writer) (ops : List WOp) (hf : ∀ op ∈ ops, WOp.Fits op) (hw : w.err = none) :
    w.run ops = w.app (ops.map opBytes).flatten := by
  induction ops generalizing w with
  | nil => exact (Writer.app_nil w).symm
  | cons op ops ih =>
    rw [Writer.run, List.foldl_cons, step_ok w op (hf op (by simp)) hw, ← Writer.run,
      ih (w.app _) (fun o ho => hf o (by simp [ho])) hw, Writer.app_app, List.map_cons, List.flatten_cons]

theorem read_one (op : WOp) (hf : WOp.Fits op) (rest : Bytes) (a : Nat) :
    ∃ a', (Reader.step ⟨opBytes op ++ rest, none, a⟩ (mirror op)) = (valOf op, ⟨rest, none, a'⟩) := by
  cases op with
  | num k n => exact ⟨a, by simp only [Reader.step, mirror, opBytes, valOf, readNum_append k n rest a hf]⟩
  | bytes d =>
    exact ⟨a + d.length, by simp only [Reader.step, mirror, opBytes, valOf, readCStringNRaw_append d rest a]⟩
  | cstr s =>
    exact ⟨a, by simp only [Reader.step, mirror, opBytes, valOf, List.append_assoc, List.singleton_append,
      readCString_append s rest a hf]⟩
  | fixed s n =>
    exact ⟨a + n, by simp only [Reader.step, mirror, opBytes, valOf, List.append_assoc,
      readCStringN_fixed hf.2 hf.1 rest a]⟩

/-- **read_write_inverse** : any sequence of fitting writes, read back through the mirrored
    reads from the written bytes followed by arbitrary further input, returns exactly the values
    written, leaves exactly the further input, and records no error. -/
theorem read_write_inverse (ops : List WOp) (hf : ∀ op ∈ ops, WOp.Fits op) (rest : Bytes) (a : Nat) :
    ∃ a', Reader.run ⟨(Writer.run {} ops).buf ++ rest, none, a⟩ (ops.map mirror)
      = (ops.map valOf, ⟨rest, none, a'⟩) := by
  rw [run_ok {} ops hf rfl, Writer.app, List.nil_append]
  induction ops generalizing a with
  | nil => exact ⟨a, by simp [Reader.run]⟩
  | cons op ops ih =>
    obtain ⟨a1, h1⟩ := read_one op (hf op (by simp)) ((ops.map opBytes).flatten ++ rest) a
    obtain ⟨a2, h2⟩ := ih (fun o ho => hf o (by simp [ho])) a1
    refine ⟨a2, ?_⟩
    simp only [List.map_cons, List.flatten_cons, List.append_assoc, Reader.run, h1, h2]

/-- what a read returns while an error is recorded (`ReadBytes` leaves its zeroed receiver as it is) -/
def zeroOf : ROp → RVal
  | .num _ => .n 0
  | .cstrN _ => .b []
  | .rawN _ => .b []
  | .cstr => .b []
  | .bytes n => .b (zeros n)

theorem rstep_sticky (r : Reader) (op : ROp) (e : PErr) (h : r.err = some e) :
    r.step op = (zeroOf op, r) := by
  cases op <;> simp only [Reader.step, readNum_eq, readCStringN_eq, readCStringNRaw_eq, readCString_eq, readBytes_eq,
    Reader.read_pending h, zeroOf]

/-- **sticky_reader** : once an error is recorded, every later read returns the zero value,
    consumes nothing and keeps the first error. -/
theorem sticky_reader (r : Reader) (ops : List ROp) (e : PErr) (h : r.err = some e) :
    r.run ops = (ops.map zeroOf, r) := by
  induction ops with
  | nil => rfl
  | cons op ops ih => simp [Reader.run, rstep_sticky r op e h, ih]

theorem rstep_bounds (r : Reader) (op : ROp) :
    (r.step op).2.rest <:+ r.rest ∧ (r.step op).2.alloc + (r.step op).2.rest.length ≤ r.alloc + r.rest.length := by
  -- every operation is a `Reader.read` that requests no more than its width
  cases op <;>
    simp only [Reader.step, readNum_eq, readCStringN_eq, readCStringNRaw_eq, readCString_eq, readBytes_eq] <;>
    exact ⟨Reader.read_suffix, (Reader.read_step (by omega)).alloc⟩

/-- **reader_in_bounds** : whatever is read, in whatever order, the reader's position stays
    inside its input: what remains is always a suffix of the input, so at most
    `input.length` octets are ever consumed. -/
theorem reader_in_bounds (r : Reader) (ops : List ROp) :
    (r.run ops).2.rest <:+ r.rest ∧ (r.run ops).2.rest.length ≤ r.rest.length := by
  suffices h : (r.run ops).2.rest <:+ r.rest from ⟨h, h.length_le⟩
  induction ops generalizing r with
  | nil => exact List.suffix_refl _
  | cons op ops ih => exact (ih (r.step op).2).trans (rstep_bounds r op).1

/-- what `ReadCStringNWithoutTrim` / `ReadNBytes`, `ReadCStringN` and `ReadCString` return is a prefix of
    what was unread (the second cut at a NUL): nothing comes from beyond the end.  (`ReadBytes` fills a
    receiver, which it pads with zeros on a short read: `readBytes_val`, Lemmas/Packet.lean.) -/
theorem read_value_from_input (r : Reader) (n : Nat) :
    (r.readCStringNRaw n).1 <+: r.rest ∧ (r.readCStringN n).1 <+: r.rest ∧ (r.readCString).1 <+: r.rest :=
  ⟨readCStringNRaw_eq r n ▸ Reader.read_prefix fun _ h => h,
   readCStringN_eq r n ▸ Reader.read_prefix fun t h => (cutAtNul_prefix t).trans h,
   readCString_eq r ▸ Reader.read_prefix fun _ _ => cutAtNul_prefix _⟩

/-- one read, failed or not: what the reader has requested from the allocator so far plus what is
    still buffered does not grow, so no read requests more than the octets it takes off the buffer. -/
theorem read_alloc_bounded (r : Reader) (op : ROp) :
    (r.step op).2.alloc + (r.step op).2.rest.length ≤ r.alloc + r.rest.length :=
  (rstep_bounds r op).2

example : ∀ op ∈ [WOp.num 4 0xdeadbeef, .fixed [65, 66] 6, .cstr [104, 105], .bytes [0, 1, 0], .num 1 255],
    WOp.Fits op := by
  intro op h; simp at h; rcases h with rfl | rfl | rfl | rfl | rfl <;> simp [WOp.Fits, hasNul]

example : (Writer.run {} [.fixed [1, 2, 3] 2, .num 4 7, .bytes [9]]) = ⟨[], 0, some .tooLong⟩ := by decide

end SmsVerif.C20

section
open SmsVerif.C20
#print axioms written_eq_len
#print axioms bytesWithLength_prefix
#print axioms sticky_writer
#print axioms failed_writer_outputs
#print axioms fixed_too_long_refused
#print axioms read_write_inverse
#print axioms sticky_reader
#print axioms reader_in_bounds
#print axioms read_value_from_input
#print axioms read_alloc_bounded
end
