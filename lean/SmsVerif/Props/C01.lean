/-
  C01 — PDU encode → decode round trip for every PDU type of all five protocols.

  The layouts (`Gen.allPdus`) are regenerated from /repo on every run; the obligations that
  depend on them are the `by decide` lines below, everything else is proved once.
-/
import SmsVerif.Lemmas.LayoutRoundTrip
import SmsVerif.Gen.Layouts

namespace SmsVerif.C01
open SmsVerif

/-- The property for one PDU type, at full strength: the statement lists of `IEncode` and
    `IDecode` align into wire items, and for every PDU value whose normal form (the receiver as
    the encoder leaves it: only the documented defaults applied) fits the wire format — integers
    in range, text without NUL and no longer than its slot, fixed binary fields at exactly their
    width, declared lengths and counts equal to the actual ones, optional parameters with distinct
    tags — and whose image stays below 4 GiB (the length word has 32 bits; asked of every layout, with or
    without one), encoding succeeds and decoding the produced octets into a fresh PDU gives a PDU equal
    to the normal form in every struct field, the header length field holding the real byte count. -/
def RoundTrips (p : PduDesc) : Prop :=
  ∃ lf its, p.items = some (lf, its) ∧ ∀ r : Rec,
    (∀ it ∈ its, it.Fits (norm its r)) → (itemsBytes (norm its r) its).length + 4 < 2 ^ 32 →
    ∃ bs dec, p.encode r = .ok (bs, norm its r) ∧ p.decode bs = .ok dec ∧
      ∀ ft ∈ p.fields,
        dec.get? ft.1 = (if p.fin = .withLength ∧ ft.1 = lf then some (.num bs.length)
                         else (norm its r).get? ft.1)

/-- PDU types outside the reflective theorems.  Two whose `IEncode` / `IDecode` are *not* an inverse pair
    (open findings, see known-findings.json): the SMGP message id is written raw and read back
    hex-expanded.  Two whose decoder has a conditional body (SMPP 3.4 §4.1.2, §4.4.2: a response with a
    non-zero command_status has no body; the decoder returns early on a bare header): the statement
    `stopIfAbsent` is interpreted faithfully by the model (`DecOp.run`) and compared with the code on
    every run, but the round-trip / fit / truncation theorems are proved for layouts without it. -/
def exceptions : List String := ["smgp30.Deliver", "smgp30.SubmitResp", "smpp34.BindResp", "smpp34.SubmitSmResp"]

/-- per-run obligation: the checker accepts every regenerated layout outside the exceptions -/
theorem layouts_checked :
    (Gen.allPdus.filter (fun p => !exceptions.contains p.name)).all PduDesc.checkRoundTrip = true := by
  decide +kernel

/-- **C01_roundtrip** : every PDU type the translator finds in /repo (outside the recorded
    exceptions) round-trips. -/
theorem C01_roundtrip (p : PduDesc) (hp : p ∈ Gen.allPdus) (hx : exceptions.contains p.name = false) :
    RoundTrips p := by
  have h := layouts_checked
  rw [List.all_eq_true] at h
  exact roundtrip_sound p (h p (List.mem_filter.2 ⟨hp, by rw [hx]; rfl⟩))

/-- **C01_count** : the translator finds 58 layouts: the dispatchers' 57 PDU types and the CMPP status-report body -/
theorem C01_count : Gen.allPdus.length = 58 := by decide

/-- the 16-octet authenticators must be carried as raw octets (all byte values, NUL included).  The list is
    written by hand, and it is what keeps the quantifier of `C01_roundtrip` (and of C02, C11, which take `Fits`
    from the same items) as wide as the property asks: a slot read with `ReadCStringN` still round-trips, under
    the narrower `Fits` "no NUL" of a `fixedTrim` item, and no other theorem would notice. -/
def binaryFields : List (String × String) :=
  [("cmpp20.PduConnect", "AuthenticatorSource"), ("cmpp20.PduConnectResp", "AuthenticatorISMG"),
   ("cmpp30.Connect", "AuthenticatorSource"), ("cmpp30.ConnectResp", "AuthenticatorISMG"),
   ("smgp30.Login", "AuthenticatorClient"), ("smgp30.LoginResp", "AuthenticatorServer")]

def rawAt (p : PduDesc) (f : String) : Bool :=
  match p.items with
  | some (_, its) => its.any fun | .fixedRaw f' 16 => f' == f | _ => false
  | none => false

def binaryOK (pf : String × String) : Bool :=
  match Gen.allPdus.find? (·.name == pf.1) with
  | some p => rawAt p pf.2
  | none => false

/-- known finding (open): `smgp30.LoginResp.AuthenticatorServer` is read as a NUL-terminated
    string (`TestLoginResp` expects the trimming), so a digest containing 0x00 is cut. -/
def binaryExceptions : List (String × String) := [("smgp30.LoginResp", "AuthenticatorServer")]

/-- **C01_binary_fields_exact** : each listed authenticator (outside the open finding) is written by
    `WriteFixedLenString(·, 16)` and read back by `ReadCStringNWithoutTrim(16)`. -/
theorem C01_binary_fields_exact :
    (binaryFields.filter (fun pf => !binaryExceptions.contains pf)).all binaryOK = true := by decide +kernel

theorem writeRep_sticky (w : Writer) (e : PErr) (hw : w.err = some e) (n : Nat) (l : List Bytes) :
    writeRep w n l = w := by
  induction l with
  | nil => rfl
  | cons x xs ih => rw [writeRep, Writer.writeFixed_failed hw, ih]

theorem EncOp.run_sticky (op : EncOp) (r : Rec) (w : Writer) (e : PErr) (hw : w.err = some e)
    (st : EncState) (h : op.run ⟨r, w⟩ = .ok st) : st.w = w := by
  cases op <;>
    simp only [EncOp.run, Writer.writeNum_failed hw, Writer.writeBytes_failed hw, Writer.writeCString_failed hw,
      Writer.writeFixed_failed hw, writeRep_sticky w e hw] at h <;>
    (try split at h) <;> cases h <;> rfl

theorem runEnc_sticky (ops : List EncOp) (r : Rec) (w : Writer) (e : PErr) (hw : w.err = some e) :
    ∀ st, runEnc ops ⟨r, w⟩ = .ok st → st.w.err = some e := by
  induction ops generalizing r w with
  | nil => intro st h; cases h; exact hw
  | cons op ops ih =>
    intro st h
    simp only [runEnc] at h
    split at h
    · rename_i st1 hop
      obtain ⟨r1, w1⟩ := st1
      obtain rfl : w1 = w := EncOp.run_sticky op r w e hw _ hop
      exact ih r1 w1 hw st h
    · cases h

theorem runEnc_append (a b : List EncOp) (st : EncState) :
    runEnc (a ++ b) st = match runEnc a st with | .ok st' => runEnc b st' | .error e => .error e := by
  induction a generalizing st with
  | nil => simp [runEnc]
  | cons op ops ih =>
    simp only [List.cons_append, runEnc]
    cases op.run st with
    | error e => rfl
    | ok st1 => exact ih st1

theorem encode_fails_of_writer_error (p : PduDesc) (pre post : List EncOp) (henc : p.enc = pre ++ post) (r : Rec)
    (st : EncState) (hpre : runEnc pre ⟨r, {}⟩ = .ok st) (e : PErr) (hw : st.w.err = some e) :
    ∃ e, p.encode r = .error e := by
  simp only [PduDesc.encode, henc, runEnc_append, hpre]
  cases hpost : runEnc post st with
  | error e' => exact ⟨e', rfl⟩
  | ok st2 =>
    have := runEnc_sticky post st.r st.w e hw st2 hpost
    cases p.fin <;> simp [Writer.bytes, Writer.bytesWithLength, this]

/-- **C01_encode_rejects_oversize** : if, when `IEncode` reaches a `WriteFixedLenString(p.f, n)`
    statement, the field holds more than `n` octets, then `IEncode` returns an error and no bytes —
    never truncated or shifted output. -/
theorem C01_encode_rejects_oversize (p : PduDesc) (pre post : List EncOp) (f : String) (n : Nat)
    (henc : p.enc = pre ++ .fixed f n :: post) (r : Rec)
    (hlong : ∀ st, runEnc pre ⟨r, {}⟩ = .ok st → n < (st.r.str f).length) :
    ∃ e, p.encode r = .error e := by
  cases hpre : runEnc pre ⟨r, {}⟩ with
  | error e => exact ⟨e, by rw [PduDesc.encode, henc, runEnc_append, hpre]⟩
  | ok st =>
    -- after the statement the writer has failed: it had already, or the value is too long
    have hrun : runEnc (pre ++ [.fixed f n]) ⟨r, {}⟩ = .ok ⟨st.r, st.w.writeFixed (st.r.str f) n⟩ := by
      rw [runEnc_append, hpre]; rfl
    have henc' : p.enc = (pre ++ [.fixed f n]) ++ post := by rw [henc, List.append_assoc]; rfl
    cases hw : st.w.err with
    | some e => exact encode_fails_of_writer_error p _ post henc' r _ hrun e (by rw [Writer.writeFixed_failed hw, hw])
    | none =>
      exact encode_fails_of_writer_error p _ post henc' r _ hrun .tooLong
        (by rw [Writer.writeFixed_long hw (hlong st hpre)])

/-- the checker accepts a concrete layout -/
example : Gen.cmpp30_ActiveTestResp.checkRoundTrip = true := by decide +kernel

end SmsVerif.C01

section
open SmsVerif.C01
#print axioms C01_roundtrip
#print axioms C01_count
#print axioms C01_binary_fields_exact
#print axioms C01_encode_rejects_oversize
#print axioms SmsVerif.roundtrip_sound
end
