/-
  C02 — encoded bytes are exactly the layout the protocol specifications prescribe.

  `Spec/Tables.lean` holds the field tables of the five documents, `Spec.wire` the reference
  serialiser over such a table (it never looks at the library).  Proved here:
    * `C02_bytes_are_spec`: for every PDU type the translator finds (outside the recorded
      deviation) and every well-formed field assignment, `IEncode` returns exactly `Spec.wire` of
      its table — fields in document order, integers big-endian, fixed fields NUL-padded,
      C-strings NUL-terminated;
    * `C02_length_prefix`, `C02_header_*`: the first four octets of a framed message are its total
      length, the command id and the sequence number(s) follow at their fixed offsets (stated of
      `Spec.wire`; they hold of what `IEncode` returns through `C02_bytes_are_spec`);
    * the hand-computed CMPP 2.0 lengths equal the real size (`lenCheck`, inside `specOK`): the
      extracted formula is linearised with Go's fixed-width arithmetic made explicit, a product
      such as `21*DestUsrTL` computed in 8 bits is refused;
    * `C02_decode_of_spec_image`: decoding the reference image gives back every field.
  Per-run obligations: the `decide` lines over the regenerated layouts.
-/
import SmsVerif.Spec.Tables
import SmsVerif.Lemmas.SpecMatch
import SmsVerif.Props.C01

namespace SmsVerif.C02
open SmsVerif SmsVerif.Spec

/-- drop the leading normalisations and the hand-written length word of a CMPP 2.0 style encoder -/
def stripLen (l : String) : List Item → Option (List Item)
  | .asg _ _ :: rest => stripLen l rest
  | .num 4 g _ :: rest => if g = l then some rest else none
  | _ => none

theorem stripLen_bytes (its rest : List Item) (l : String) (r : Rec) (h : stripLen l its = some rest) :
    itemsBytes r its = be 4 (r.num l) ++ itemsBytes r rest := by
  fun_induction stripLen l its with
  | case1 c as its ih => rw [itemsBytes_cons, ih h]; rfl
  | case2 conv rest' => cases h; rfl
  | case3 | case4 => cases h

/-- the regenerated layout `p` is the document table `s` -/
def specOK (p : PduDesc) (s : Spec) : Bool :=
  s.pdu == p.name &&
  match p.items with
  | none => false
  | some (lf, its) =>
    asgOK its &&
    match p.fin, s.lenField with
    | .withLength, some l => l == lf && matchItems its s.fields
    | .plain, none => matchItems its s.fields
    | .plain, some l =>
      (match stripLen l its with
       | some rest => matchItems rest s.fields
       | none => false) && lenCheck l its
    | _, _ => false

/-- a layout that matches its document table encodes every fitting PDU value to the reference
    serialisation of that table -/
theorem spec_wire (p : PduDesc) (s : Spec) (h : specOK p s = true) :
    ∃ lf its, p.items = some (lf, its) ∧ ∀ r : Rec, (∀ it ∈ its, it.Fits (norm its r)) →
      p.encode r = .ok (s.wire (norm its r), norm its r) := by
  unfold specOK at h
  simp only [Bool.and_eq_true] at h
  obtain ⟨_, h⟩ := h
  split at h
  · cases h
  · rename_i lf its hitems
    simp only [Bool.and_eq_true] at h
    obtain ⟨hasg, h⟩ := h
    refine ⟨lf, its, hitems, fun r hf => ?_⟩
    rw [encode_items p lf its hitems hasg r hf]
    unfold wire Spec.wire
    split at h
    · -- length prefix written by the packet writer
      simp only [Bool.and_eq_true, if_true, *] at h ⊢
      rw [matchItems_bytes its s.fields h.2]
    · -- a bare structure (the CMPP status report)
      simp only [reduceCtorEq, if_false, List.nil_append, *]
      rw [matchItems_bytes its s.fields h]
    · -- hand-written length word: it must hold the real size
      rename_i l _ _
      simp only [Bool.and_eq_true, reduceCtorEq, if_false, List.nil_append, *] at h ⊢
      obtain ⟨hm, hlc⟩ := h
      split at hm
      · rename_i rest hstrip
        have hsz := lenCheck_sound l its hlc r hf
        rw [stripLen_bytes its rest l _ hstrip, matchItems_bytes rest s.fields hm] at hsz ⊢
        rw [hsz, List.length_append, be_length, Nat.add_comm]
      · cases hm
    · cases h

/-- PDU types whose layout deviates from the document (known finding, see known-findings.json):
    SMGP 3.0.3 §5.2.2.5.2 defines Active_Test_Resp without a body, the library writes and expects
    one reserved octet.  (The two SMPP response types whose body is present only when
    command_status is zero — SMPP 3.4 §4.1.2, §4.4.2 — are *not* deviations of the encoder's layout: the
    tables describe the layout with its body, `C02_bytes_are_spec` holds for them, and the library writing
    that body also for a non-zero status is an open finding reported by the correspondence run.) -/
def deviations : List String := ["smgp30.ActiveTestResp"]

def tableFor (p : PduDesc) : Bool :=
  match Spec.find? p.name with
  | some s => specOK p s
  | none => false

theorem layouts_are_spec :
    (Gen.allPdus.filter (fun p => !deviations.contains p.name)).all tableFor = true := by decide +kernel

/-- **C02_bytes_are_spec**: every PDU type of the library has a table in the documents, and for
    every field assignment whose normal form fits the wire format `IEncode` returns exactly the
    reference serialisation of that table. -/
theorem C02_bytes_are_spec (p : PduDesc) (hp : p ∈ Gen.allPdus) (hx : deviations.contains p.name = false) :
    ∃ s ∈ Spec.all, s.pdu = p.name ∧ ∃ lf its, p.items = some (lf, its) ∧ ∀ r : Rec,
      (∀ it ∈ its, it.Fits (norm its r)) → p.encode r = .ok (s.wire (norm its r), norm its r) := by
  have h := List.all_eq_true.1 layouts_are_spec p (List.mem_filter.2 ⟨hp, by rw [hx]; rfl⟩)
  unfold tableFor at h
  split at h
  · rename_i s hs
    have hmem : s ∈ Spec.all := List.mem_of_find?_eq_some hs
    have hname : s.pdu = p.name := by simpa using List.find?_some hs
    exact ⟨s, hmem, hname, spec_wire p s h⟩
  · simp at h

/-- **C02_length_prefix**: the first four octets of a framed message are its total length (as `be 4`
    writes it: modulo 2^32) -/
theorem C02_length_prefix (s : Spec) (h : s.lenField.isSome = true) (r : Rec) :
    (s.wire r).take 4 = be 4 (s.wire r).length := by
  unfold Spec.wire
  split
  · rename_i hn; simp [hn] at h
  · simp [Nat.add_comm]

theorem fieldsBytes_append (r : Rec) (a b : List SField) :
    fieldsBytes r (a ++ b) = fieldsBytes r a ++ fieldsBytes r b := by simp [fieldsBytes]

def startsWith (hdr : List SField) (s : Spec) : Bool := s.lenField.isSome && s.fields.take hdr.length == hdr

theorem tables_have_headers :
    (Spec.cmpp20 ++ Spec.cmpp30).all (startsWith Spec.cmppHdr) = true ∧
    Spec.sgip12.all (startsWith Spec.sgipHdr) = true ∧
    Spec.smgp30.all (startsWith Spec.smgpHdr) = true ∧
    Spec.smpp34.all (startsWith Spec.smppHdr) = true := by decide +kernel

/-- a framed message whose table begins with the fields `hdr`: the length word, then `hdr` -/
theorem header_of_startsWith {hdr : List SField} {tbl : List Spec} (h : tbl.all (startsWith hdr) = true)
    {s : Spec} (hs : s ∈ tbl) (r : Rec) :
    ∃ body, s.wire r = be 4 (s.wire r).length ++ (fieldsBytes r hdr ++ body) := by
  have h := List.all_eq_true.1 h s hs
  simp only [startsWith, Bool.and_eq_true, beq_iff_eq] at h
  obtain ⟨l, hl⟩ := Option.isSome_iff_exists.1 h.1
  have hsplit := List.take_append_drop hdr.length s.fields
  rw [h.2] at hsplit
  refine ⟨fieldsBytes r (s.fields.drop hdr.length), ?_⟩
  rw [← fieldsBytes_append, hsplit]
  simp [Spec.wire, hl, Nat.add_comm]

/-- **C02_header_cmpp**: CMPP 2.0/3.0 — length, Command_Id at offset 4, Sequence_Id at offset 8 -/
theorem C02_header_cmpp (s : Spec) (hs : s ∈ Spec.cmpp20 ++ Spec.cmpp30) (r : Rec) :
    ∃ body, s.wire r = be 4 (s.wire r).length ++ be 4 (r.num "Header.CommandID")
      ++ be 4 (r.num "Header.SequenceID") ++ body := by
  obtain ⟨body, e⟩ := header_of_startsWith tables_have_headers.1 hs r
  exact ⟨body, by simpa [fieldsBytes, Spec.cmppHdr, SField.bytes, Spec.u] using e⟩

/-- **C02_header_smgp**: SMGP 3.0 — PacketLength, RequestID at 4, SequenceID at 8 -/
theorem C02_header_smgp (s : Spec) (hs : s ∈ Spec.smgp30) (r : Rec) :
    ∃ body, s.wire r = be 4 (s.wire r).length ++ be 4 (r.num "Header.CommandID")
      ++ be 4 (r.num "Header.SequenceID") ++ body := by
  obtain ⟨body, e⟩ := header_of_startsWith tables_have_headers.2.2.1 hs r
  exact ⟨body, by simpa [fieldsBytes, Spec.smgpHdr, SField.bytes, Spec.u] using e⟩

/-- **C02_header_sgip**: SGIP 1.2 — Message Length, Command ID at 4, the three sequence words at 8, 12, 16 -/
theorem C02_header_sgip (s : Spec) (hs : s ∈ Spec.sgip12) (r : Rec) :
    ∃ body, s.wire r = be 4 (s.wire r).length ++ be 4 (r.num "Header.CommandID")
      ++ be 4 (r.num "Header.Sequence.0") ++ be 4 (r.num "Header.Sequence.1")
      ++ be 4 (r.num "Header.Sequence.2") ++ body := by
  obtain ⟨body, e⟩ := header_of_startsWith tables_have_headers.2.1 hs r
  exact ⟨body, by simpa [fieldsBytes, Spec.sgipHdr, SField.bytes, Spec.u] using e⟩

/-- **C02_header_smpp**: SMPP 3.4 — command_length, command_id at 4, command_status at 8, sequence_number at 12 -/
theorem C02_header_smpp (s : Spec) (hs : s ∈ Spec.smpp34) (r : Rec) :
    ∃ body, s.wire r = be 4 (s.wire r).length ++ be 4 (r.num "Header.ID") ++ be 4 (r.num "Header.Status")
      ++ be 4 (r.num "Header.Sequence") ++ body := by
  obtain ⟨body, e⟩ := header_of_startsWith tables_have_headers.2.2.2 hs r
  exact ⟨body, by simpa [fieldsBytes, Spec.smppHdr, SField.bytes, Spec.u] using e⟩

/-- **C02_decode_of_spec_image**: the decoder, given the reference serialisation of a table, returns
    every field value the image carries (the header length field holding the image size).  The images are
    those of normal forms `norm its r` that fit and stay below 4 GiB (a CMPP 2.0 submit announcing part 0
    of 0 is not one), for the types inside `C01_roundtrip`. -/
theorem C02_decode_of_spec_image (p : PduDesc) (hp : p ∈ Gen.allPdus)
    (hx : deviations.contains p.name = false) (hx1 : C01.exceptions.contains p.name = false) :
    ∃ s ∈ Spec.all, s.pdu = p.name ∧ ∃ lf its, p.items = some (lf, its) ∧ ∀ r : Rec,
      (∀ it ∈ its, it.Fits (norm its r)) → (itemsBytes (norm its r) its).length + 4 < 2 ^ 32 →
      ∃ dec, p.decode (s.wire (norm its r)) = .ok dec ∧ ∀ ft ∈ p.fields,
        dec.get? ft.1 = (if p.fin = .withLength ∧ ft.1 = lf then some (.num (s.wire (norm its r)).length)
                         else (norm its r).get? ft.1) := by
  obtain ⟨s, hs, hn, lf, its, hits, henc⟩ := C02_bytes_are_spec p hp hx
  obtain ⟨lf', its', hits', hrt⟩ := C01.C01_roundtrip p hp hx1
  rw [hits] at hits'
  simp only [Option.some.injEq, Prod.mk.injEq] at hits'
  obtain ⟨rfl, rfl⟩ := hits'
  refine ⟨s, hs, hn, lf, its, hits, fun r hf hsz => ?_⟩
  obtain ⟨bs, dec, he, hd, hfields⟩ := hrt r hf hsz
  rw [henc r hf] at he
  simp only [Except.ok.injEq, Prod.mk.injEq, and_true] at he
  subst he
  exact ⟨dec, hd, hfields⟩

/-- the CMPP 2.0 submit formula as extracted is accepted -/
example : tableFor Gen.cmpp20_PduSubmit = true := by decide +kernel
/-- the product `21*DestUsrTL` computed in 8 bits would be refused: with the bound 255 on the field,
    `conv 1 (21 * DestUsrTL)` cannot be linearised; computed in 32 bits it is accepted -/
example : lin (fun f => if f = "DestUsrTL" then some 255 else none)
    (.conv 4 (.conv 1 (.mul (.lit 21) (.fld "DestUsrTL")))) = none := by decide +kernel
example : (lin (fun f => if f = "DestUsrTL" then some 255 else none)
    (.conv 4 (.mul (.lit 21) (.conv 4 (.fld "DestUsrTL"))))).isSome = true := by decide +kernel

end SmsVerif.C02

#print axioms SmsVerif.C02.C02_bytes_are_spec
#print axioms SmsVerif.C02.C02_length_prefix
#print axioms SmsVerif.C02.C02_header_cmpp
#print axioms SmsVerif.C02.C02_header_smgp
#print axioms SmsVerif.C02.C02_header_sgip
#print axioms SmsVerif.C02.C02_header_smpp
#print axioms SmsVerif.C02.C02_decode_of_spec_image
#print axioms SmsVerif.C02.layouts_are_spec
#print axioms SmsVerif.lenCheck_sound
