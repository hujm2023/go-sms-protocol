/-
  `roundtrip_sound`: the reflection theorem behind C01 / C11 / C15.  Proved once, for every
  layout description; the per-PDU obligations are closed boolean evaluations of
  `PduDesc.checkRoundTrip` on the regenerated `Gen` data.  Before it, the size of an image read off
  the PDU value (`Item.wireLen`, `fits_bytes_length`: C02's length formulas, C03, C11) and the lower
  bound the decoder's guard is checked against (`itemsBytes_length_ge`).
-/
import SmsVerif.Lemmas.LayoutDec
import SmsVerif.Lemmas.DecodeRun

namespace SmsVerif

theorem repBytes_length_ge (n : Nat) (l : List Bytes) : 0 ≤ (repBytes n l).length := Nat.zero_le _

theorem repBytes_length (n : Nat) (l : List Bytes) (h : ∀ s ∈ l, s.length ≤ n) :
    (repBytes n l).length = n * l.length := by
  induction l with
  | nil => simp [repBytes]
  | cons x xs ih =>
    have hx := h x (by simp)
    have := ih (fun s hs => h s (by simp [hs]))
    simp only [repBytes, List.length_append, zeros_length, this, List.length_cons, Nat.mul_add]
    omega

/-- octets the item occupies on the wire, read off the PDU value -/
def Item.wireLen (r : Rec) : Item → Nat
  | .num k _ _ => k
  | .cstr f => (r.str f).length + 1
  | .fixedTrim _ n => n
  | .fixedRaw _ n => n
  | .fixedHexOut _ n => n
  | .hexBoth _ n => n
  | .body _ l _ => r.num l
  | .rep _ c n _ _ => n * r.num c
  | .asg _ _ => 0
  | .tail _ _ => 0

def wireSum (r : Rec) (its : List Item) : Nat := (its.map (·.wireLen r)).sum

theorem wireLen_congr (it : Item) {a b : Rec} (h : AgreeOn it.mentions a b) : it.wireLen a = it.wireLen b := by
  cases it <;> simp only [Item.wireLen, Item.mentions] at * <;>
    first
    | rfl
    | (rw [str_congr (h _ (by simp))])
    | (rw [num_congr (h _ (by simp))])

theorem fits_bytes_length (it : Item) (r : Rec) (hf : it.Fits r) (hnt : it.isTail = false) :
    (it.bytes r).length = it.wireLen r := by
  cases it with
  | num k f c => simp [Item.bytes, Item.wireLen]
  | cstr f => simp [Item.bytes, Item.wireLen]
  | fixedTrim f n => obtain ⟨s, hs, _, hl⟩ := hf; simp [Item.bytes, Item.wireLen, Rec.str, hs]; omega
  | fixedRaw f n => obtain ⟨s, hs, hl⟩ := hf; simp [Item.bytes, Item.wireLen, Rec.str, hs]; omega
  | fixedHexOut f n => obtain ⟨s, hs, hl⟩ := hf; simp [Item.bytes, Item.wireLen, Rec.str, hs]; omega
  | hexBoth f n =>
    obtain ⟨b, hs, hl, hb⟩ := hf
    simp [Item.bytes, Item.wireLen, Rec.str, hs, hexDecode_hexEncode b hb]; omega
  | body f l d => obtain ⟨s, hs, hl⟩ := hf; simp [Item.bytes, Item.wireLen, Rec.str, Rec.num, hs, hl]
  | rep f c n cn ap =>
    obtain ⟨l, hs, hc, hl⟩ := hf
    simp only [Item.bytes, Item.wireLen, Rec.strs, Rec.num, hs, hc]
    exact repBytes_length n l (fun s hs' => (hl s hs').2)
  | asg c as => simp [Item.bytes, Item.wireLen]
  | tail f p => simp [Item.isTail] at hnt

/-- whatever the value: a slot of `n` octets is padded to at least `n` -/
theorem Item.bytes_length_ge (it : Item) (r : Rec) : it.minLen ≤ (it.bytes r).length := by
  cases it <;> simp [Item.minLen, Item.bytes] <;> omega

theorem itemsBytes_length_ge (its : List Item) (r : Rec) : sumMinLen its ≤ (itemsBytes r its).length := by
  induction its with
  | nil => simp [sumMinLen]
  | cons it rest ih =>
    have := it.bytes_length_ge r
    simp only [sumMinLen, itemsBytes_cons, List.length_append]
    omega

/-- the octets `IEncode` emits for the normalised receiver `r'` -/
def wire (p : PduDesc) (its : List Item) (r' : Rec) : Bytes :=
  (if p.fin = .withLength then be 4 ((itemsBytes r' its).length + 4) else []) ++ itemsBytes r' its

theorem encode_items (p : PduDesc) (lf : String) (its : List Item) (hits : p.items = some (lf, its))
    (hasg : asgOK its = true) (r : Rec) (hf : ∀ it ∈ its, it.Fits (norm its r)) :
    p.encode r = .ok (wire p its (norm its r), norm its r) := by
  obtain ⟨ds, hp, _⟩ := PduDesc.items_some hits
  unfold PduDesc.encode wire
  rw [runEnc_items p.enc ds its hp hasg r hf {} rfl]
  cases p.fin <;> simp [Writer.bytes, Writer.bytesWithLength, Writer.app, zeros]

/-- the expected decoding of a PDU encoded from the normalised receiver `r'` -/
def expected (p : PduDesc) (lf : String) (its : List Item) (r' : Rec) : Rec :=
  applyExpect r' its
    (if p.fin = .withLength then p.fresh.set lf (.num ((itemsBytes r' its).length + 4)) else p.fresh)

theorem decode_items (p : PduDesc) (lf : String) (its : List Item) (hits : p.items = some (lf, its))
    (hdec : decOK [] (if p.fin = .withLength then [lf] else []) its = true)
    (htl : tailLast its = true)
    (hguard : guardOf p.dec ≤ sumMinLen its + (if p.fin = .withLength then 4 else 0))
    (hns : p.dec.all (fun d => !d.isStop) = true)
    (r' : Rec) (hf : ∀ it ∈ its, it.Fits r') (hsize : (itemsBytes r' its).length + 4 < 2 ^ 32) :
    p.decode (wire p its r') = .ok (expected p lf its r') := by
  have hlen := itemsBytes_length_ge its r'
  obtain ⟨ds, hp, hds⟩ := PduDesc.items_some hits
  rw [decBody_filter_noStop hns] at hds
  -- the statements after the length word, from the PDU value `ρ` the decoder has by then
  have hrun := fun touched hok ρ htouched => runDec_items p.enc ds its hp htl r' hf [] touched hok p.fresh ρ
    (fresh_strs_nil p) (fun g hg => by simp at hg) htouched [] (fun _ => rfl) 0 false
  simp only [List.append_nil] at hrun
  unfold PduDesc.decode PduDesc.decodeInto wire expected
  cases hfin : p.fin <;>
    simp only [hfin, reduceCtorEq, if_false, if_true, Nat.add_zero, List.nil_append] at hdec hguard hds ⊢
  · obtain ⟨rd', herr, hrun⟩ := hrun [] hdec p.fresh fun _ _ => rfl
    rw [if_neg (by omega), runDec_decBody, hds, hrun]
    cases p.ret <;> simp [herr]
  · obtain ⟨rd', herr, hrun⟩ := hrun [lf] hdec (p.fresh.set lf (.num ((itemsBytes r' its).length + 4)))
      fun g hg => Rec.get?_set_ne _ _ _ _ (by simpa using hg)
    rw [if_neg (by simp; omega), runDec_decBody, hds]
    simp only [runDec, DecOp.run, readNum_append 4 _ _ 0 (show _ < 256 ^ 4 from hsize), hrun]
    cases p.ret <;> simp [herr]

/-- If the checker accepts a layout description, then
    for every PDU value `r` whose normal form `r'` (the receiver as `IEncode` leaves it) fits the
    wire format: `IEncode` succeeds and leaves `r'`; decoding the produced octets into a fresh PDU
    succeeds; every struct field of the decoded PDU equals the field of `r'`, except the header
    length field of a length-prefixed PDU, which holds the real number of octets. -/
theorem roundtrip_sound (p : PduDesc) (h : p.checkRoundTrip = true) :
    ∃ lf its, p.items = some (lf, its) ∧ ∀ r : Rec,
      (∀ it ∈ its, it.Fits (norm its r)) → (itemsBytes (norm its r) its).length + 4 < 2 ^ 32 →
      ∃ bs dec, p.encode r = .ok (bs, norm its r) ∧ p.decode bs = .ok dec ∧
        ∀ ft ∈ p.fields,
          dec.get? ft.1 = (if p.fin = .withLength ∧ ft.1 = lf then some (.num bs.length)
                           else (norm its r).get? ft.1) := by
  unfold PduDesc.checkRoundTrip at h
  simp only [Bool.and_eq_true] at h
  obtain ⟨hunsup, hmatch⟩ := h
  cases hitems : p.items with
  | none => simp [hitems] at hmatch
  | some pr =>
    obtain ⟨lf, its⟩ := pr
    simp only [hitems, Bool.and_eq_true, decide_eq_true_eq, List.all_eq_true, Bool.or_eq_true,
      Bool.not_eq_true', beq_iff_eq] at hmatch
    obtain ⟨⟨⟨⟨⟨⟨⟨hasg, hdec⟩, htl⟩, hexact⟩, hlf⟩, hcov⟩, hguard⟩, hns⟩ := hmatch
    refine ⟨lf, its, rfl, fun r hf hsize => ?_⟩
    refine ⟨wire p its (norm its r), expected p lf its (norm its r),
      encode_items p lf its hitems hasg r hf,
      decode_items p lf its hitems hdec htl hguard (by simpa [List.all_eq_true] using hns) (norm its r) hf hsize, ?_⟩
    intro ft hft
    unfold expected wire
    rw [applyExpect_get? _ its _ hexact hf]
    by_cases hl : p.fin = .withLength ∧ ft.1 = lf
    · have hnot : ft.1 ∉ allSets its := by simpa [hl.1, hl.2] using hlf
      rw [if_pos hl, if_neg hnot, if_pos hl.1, hl.2, Rec.get?_set_self]
      simp [hl.1, Nat.add_comm]
    · rw [if_neg hl, if_pos (by simpa using (hcov ft hft).resolve_left hl)]

end SmsVerif
