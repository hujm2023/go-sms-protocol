/-
  GSM 7-bit packing (C08; C05 and C06 for the packed coding): the block algorithm of
  `gsm7encoding.Pack` (masks, shifts, ors on bytes) is the little-endian bit stream of TS 23.038
  §6.1.2.1.1, and a handset that knows the septet count reads every septet back from it.
-/
import SmsVerif.Model.Gsm7

namespace SmsVerif.Gsm7

theorem pow_split (k t w : Nat) (hw : k + t = w) : 2 ^ w = 2 ^ k * 2 ^ t := by rw [← Nat.pow_add, hw]

theorem div_pow_lt (w k t x : Nat) (hw : k + t = w) (hx : x < 2 ^ w) : x / 2 ^ k < 2 ^ t :=
  Nat.div_lt_of_lt_mul (pow_split k t w hw ▸ hx)

/-- keeping bits `k` to `w - 1` and shifting them down: the mask is `2 ^ t - 1` shifted up by `k`, so what
    comes down are the `t` bits of `x` from `k` up -/
theorem keepHigh (w k t x : Nat) (hw : k + t = w) :
    (x &&& (2 ^ w - 1 - (2 ^ k - 1))) >>> k = x / 2 ^ k % 2 ^ t := by
  have e : 2 ^ w - 1 - (2 ^ k - 1) = (2 ^ t - 1) <<< k := by
    rw [Nat.shiftLeft_eq, Nat.sub_one_mul, ← Nat.pow_add, Nat.add_comm, hw]
    have := Nat.two_pow_pos k
    omega
  rw [e, Nat.shiftRight_and_distrib, Nat.shiftLeft_shiftRight, Nat.and_two_pow_sub_one_eq_mod,
    Nat.shiftRight_eq_div_pow]

/-- the shape of both `packOctet` (`w = 7`) and `unpackSeptet` (`w = 8`): `t` bits of `x` from `k` up come
    down to the bottom, the low `n` bits of `y` go on top of them (they stay within the byte), and since the
    two do not overlap the or is a sum -/
theorem splice (w k t n x y : Nat) (hw : k + t = w) (hn : n + t ≤ 8) :
    (x &&& (2 ^ w - 1 - (2 ^ k - 1))) >>> k ||| ((y &&& (2 ^ n - 1)) <<< t) % 256
      = x / 2 ^ k % 2 ^ t + y % 2 ^ n * 2 ^ t := by
  have hlo : y % 2 ^ n * 2 ^ t < 256 :=
    Nat.lt_of_lt_of_le (Nat.mul_lt_mul_of_pos_right (Nat.mod_lt _ (Nat.two_pow_pos n)) (Nat.two_pow_pos t))
      (by rw [← Nat.pow_add]; exact Nat.pow_le_pow_right (by omega) hn)
  rw [keepHigh w k t x hw, Nat.and_two_pow_sub_one_eq_mod, Nat.shiftLeft_eq, Nat.mod_eq_of_lt hlo, Nat.or_comm,
    Nat.mul_comm, ← Nat.two_pow_add_eq_or_of_lt (Nat.mod_lt _ (Nat.two_pow_pos t)), Nat.add_comm]

theorem packOctet_arith (j a b : Nat) (hj : j < 7) :
    packOctet j a b = a % 128 / 2 ^ j + (b % 2 ^ (j + 1)) * 2 ^ (7 - j) := by
  rw [show 128 = 2 ^ j * 2 ^ (7 - j) from pow_split j (7 - j) 7 (by omega), Nat.mod_mul_right_div_self]
  -- `hiMask j` is `2 ^ 7 - 1 - (2 ^ j - 1)` by definition
  exact splice 7 j (7 - j) (j + 1) a b (by omega) (by omega)

theorem packLast_eq (j a : Nat) : packLast j a = packOctet j a 0 := by simp [packLast, packOctet]

theorem octetsLE_length (k n : Nat) : (octetsLE k n).length = k := by
  induction k generalizing n with
  | zero => rfl
  | succ k ih => simp [octetsLE, ih]

theorem octetsLE_append (m k x y : Nat) (hx : x < 256 ^ m) :
    octetsLE (m + k) (x + 256 ^ m * y) = octetsLE m x ++ octetsLE k y := by
  induction m generalizing x with
  | zero => simp at hx; simp [hx, octetsLE]
  | succ m ih =>
    have e : 256 ^ (m + 1) * y = 256 * (256 ^ m * y) := by rw [Nat.pow_succ, Nat.mul_comm _ 256, Nat.mul_assoc]
    rw [show m + 1 + k = (m + k) + 1 by omega, e]
    simp only [octetsLE, List.cons_append, Nat.add_mul_mod_self_left, Nat.add_mul_div_left _ _ (by omega : 0 < 256)]
    rw [ih (x / 256) (by rw [Nat.pow_succ] at hx; omega)]

theorem bitsOf_lt (s : List Nat) : bitsOf s < 128 ^ s.length := by
  induction s with
  | nil => simp [bitsOf]
  | cons x xs ih =>
    simp only [bitsOf, List.length_cons, Nat.pow_succ]
    have : x % 128 < 128 := Nat.mod_lt _ (by omega)
    generalize 128 ^ xs.length = P at ih ⊢
    omega

theorem setLast_cons (x : Nat) (l : Bytes) (f : Nat → Nat) (h : l ≠ []) : setLast (x :: l) f = x :: setLast l f := by
  unfold setLast
  cases hr : l.reverse with
  | nil => simp at hr; exact absurd hr h
  | cons y ys => simp [hr]

theorem setLast_length (bs : Bytes) (f : Nat → Nat) : (setLast bs f).length = bs.length := by
  unfold setLast
  cases h : bs.reverse with
  | nil => simp at h; simp [h]
  | cons x xs =>
    have := congrArg List.length h
    simp at this ⊢; omega

theorem bitsOf_append (a b : List Nat) : bitsOf (a ++ b) = bitsOf a + 128 ^ a.length * bitsOf b := by
  induction a with
  | nil => simp [bitsOf]
  | cons x xs ih =>
    simp only [List.cons_append, bitsOf, ih, List.length_cons, Nat.pow_succ]
    generalize 128 ^ xs.length = P
    generalize bitsOf b = B
    generalize bitsOf xs = A
    rw [Nat.mul_add, ← Nat.mul_assoc, Nat.mul_comm 128 P]; omega

theorem pow128_eq (n : Nat) : 128 ^ n = 2 ^ (7 * n) := (Nat.pow_mul 2 7 n).symm

/-- `packBlocks` started in the middle of a block: `j` is the octet's index in its block, and the head
    septet has already given its low `j` bits to the octet before -/
def packFrom : Nat → List Nat → Bytes
  | _, [] => []
  | j, [a] => [packLast j a]
  | j, a :: b :: rest => packOctet j a b :: if j = 6 then packFrom 0 rest else packFrom (j + 1) (b :: rest)

theorem packBlocks_eq_packFrom (s : List Nat) : packBlocks s = packFrom 0 s := by
  fun_induction packBlocks s <;> simp [packFrom, *]

theorem packFrom_ne_nil (j : Nat) (s : List Nat) (h : s ≠ []) : packFrom j s ≠ [] := by
  fun_cases packFrom j s <;> simp_all

theorem packBlocks_length (s : List Nat) : (packBlocks s).length = (7 * s.length + 7) / 8 := by
  fun_induction packBlocks s <;> simp [*]
  omega

/-- octet `j` of a block is the low octet of the bit stream that starts `j` bits into septet `a`; what is
    left of the stream starts `j + 1` bits into `b`, or with a fresh septet after the seventh octet -/
theorem packOctet_stream (j a b R : Nat) (hj : j < 7) :
    packOctet j a b = (a % 128 + 128 * (b % 128 + 128 * R)) / 2 ^ j % 256 ∧
    (a % 128 + 128 * (b % 128 + 128 * R)) / 2 ^ j / 256
      = if j = 6 then R else (b % 128 + 128 * R) / 2 ^ (j + 1) := by
  have e128 : 128 = 2 ^ j * 2 ^ (7 - j) := pow_split j (7 - j) 7 (by omega)
  have e256 : 256 = 2 ^ (7 - j) * 2 ^ (j + 1) := pow_split (7 - j) (j + 1) 8 (by omega)
  have e128' : 128 = 2 ^ (j + 1) * 2 ^ (6 - j) := pow_split (j + 1) (6 - j) 7 (by omega)
  -- only the low seven bits of `a` and `b` count, on either side
  rw [packOctet_arith j a b hj, ← Nat.mod_mod_of_dvd b ⟨_, e128'⟩]
  have ha := Nat.mod_lt a (show 0 < 128 by omega)
  have hb := Nat.mod_lt b (show 0 < 128 by omega)
  generalize a % 128 = a at *
  generalize b % 128 = b at *
  have hh := div_pow_lt 7 j (7 - j) a (by omega) ha
  -- the stream, `j` bits in: the `7 - j` high bits of `a`, and above them everything from `b` on
  have hV : (a + 128 * (b + 128 * R)) / 2 ^ j = a / 2 ^ j + 2 ^ (7 - j) * (b + 128 * R) := by
    rw [e128, Nat.mul_assoc, Nat.add_mul_div_left _ _ (Nat.two_pow_pos j)]
  rw [hV]
  constructor
  · -- its low octet: those high bits of `a`, and the low `j + 1` bits of `b` (the rest is a multiple of 128)
    rw [e256, Nat.mod_mul, Nat.add_mul_mod_self_left, Nat.mod_eq_of_lt hh,
      Nat.add_mul_div_left _ _ (Nat.two_pow_pos _), Nat.div_eq_of_lt hh, Nat.zero_add]
    conv => rhs; rw [e128', Nat.mul_assoc, Nat.add_mul_mod_self_left]
    rw [Nat.mul_comm]
  · rw [e256, ← Nat.div_div_eq_div_mul, Nat.add_mul_div_left _ _ (Nat.two_pow_pos _), Nat.div_eq_of_lt hh,
      Nat.zero_add]
    split
    · subst j; omega
    · rfl

/-- the bits of octet `j` of a block: the high `7 - j` bits of `a` below, the low `j + 1` bits of `b` above -/
theorem packOctet_bits (j a b : Nat) (hj : j < 7) (ha : a < 128) :
    packOctet j a b % 2 ^ (7 - j) = a / 2 ^ j ∧ packOctet j a b / 2 ^ (7 - j) = b % 2 ^ (j + 1) := by
  have hh := div_pow_lt 7 j (7 - j) a (by omega) ha
  rw [packOctet_arith j a b hj, Nat.mod_eq_of_lt ha, Nat.add_mul_mod_self_right, Nat.mod_eq_of_lt hh,
    Nat.add_mul_div_right _ _ (Nat.two_pow_pos _), Nat.div_eq_of_lt hh, Nat.zero_add]
  exact ⟨rfl, rfl⟩

/-- **the packed stream**: started `j` bits into the first septet, the octets are those of the remaining
    bit stream -/
theorem packFrom_eq (j : Nat) (s : List Nat) (hj : j < 7) :
    packFrom j s = octetsLE (packFrom j s).length (bitsOf s / 2 ^ j) := by
  fun_induction packFrom j s with
  | case1 j => rfl
  | case2 j a => simp [packLast_eq, (packOctet_stream j a 0 0 hj).1, octetsLE, bitsOf]
  | case3 j a b rest ih0 ih1 =>
    obtain ⟨e1, e2⟩ := packOctet_stream j a b (bitsOf rest) hj
    simp only [List.length_cons, octetsLE, bitsOf, ← e1, e2]
    split
    · exact congrArg _ (by simpa using ih0 (by omega))
    · exact congrArg _ (ih1 (by omega))

theorem packBlocks_eq (s : List Nat) : packBlocks s = octetsLE ((7 * s.length + 7) / 8) (bitsOf s) := by
  rw [← packBlocks_length, packBlocks_eq_packFrom]
  simpa using packFrom_eq 0 s (by omega)

/-- **the CR rule is one more septet**: when the stream ends on the seventh octet of a block, filling the
    seven spare bits as `Pack` does is packing a final CR -/
theorem packFrom_cr (j : Nat) (s : List Nat) (hj : j < 7) (hn : (j + s.length) % 8 = 7) :
    setLast (packFrom j s) (fun v => if v = 0 ∨ v = 1 then (v ||| (0x0D <<< 1)) % 256 else v)
      = packFrom j (s ++ [0x0D]) := by
  fun_induction packFrom j s with
  | case1 => simp at hn; omega
  | case2 j a =>
    obtain rfl : j = 6 := by simp at hn; omega
    have : a % 128 / 2 ^ 6 = 0 ∨ a % 128 / 2 ^ 6 = 1 := by omega
    simp only [List.cons_append, List.nil_append, packFrom, if_true, packLast_eq, packOctet_arith 6 a _ hj, setLast]
    rcases this with e | e <;> simp [e]
  | case3 j a b rest ih0 ih1 =>
    simp only [List.length_cons] at hn
    rw [setLast_cons _ _ _ (by split <;> exact packFrom_ne_nil _ _ (by intro e; simp_all))]
    simp only [List.cons_append, packFrom]
    split
    · rw [ih0 (by omega) (by omega)]
    · rw [ih1 (by omega) (by simp; omega)]; rfl

theorem packGo_eq (s : List Nat) : packGo s = packBlocks (if s.length % 8 = 7 then s ++ [0x0D] else s) := by
  unfold packGo
  split
  · rw [if_pos (by omega), packBlocks_eq_packFrom, packBlocks_eq_packFrom, packFrom_cr 0 s (by omega) (by omega)]
  · rw [if_neg (by omega)]

/-- no hypothesis on the septets: the masks of `Pack` drop what `bitsOf` drops, everything above bit 6 -/
theorem packGo_eq_spec (s : List Nat) : packGo s = packSpec s := by
  rw [packGo_eq s]
  unfold packSpec
  simp only
  split
  · have e : (7 * (s ++ [0x0D]).length + 7) / 8 = (7 * s.length + 7) / 8 := by simp; omega
    rw [packBlocks_eq, bitsOf_append, pow128_eq, if_pos (by omega), e]
    simp [bitsOf, Nat.mul_comm]
  · rw [packBlocks_eq s, if_neg (by omega)]; rfl

theorem foldr_octetsLE (K x : Nat) : (octetsLE K x).foldr (fun b acc => b % 256 + 256 * acc) 0 = x % 256 ^ K := by
  induction K generalizing x with
  | zero => simp [octetsLE, Nat.mod_one]
  | succ K ih =>
    simp only [octetsLE, List.foldr_cons, ih]
    rw [Nat.pow_succ, Nat.mul_comm (256 ^ K) 256, Nat.mod_mul, Nat.mod_mod]

theorem bitsOf_septet (s : List Nat) (i : Nat) (hi : i < s.length) :
    (bitsOf s / 2 ^ (7 * i)) % 128 = s[i] % 128 := by
  induction s generalizing i with
  | nil => simp at hi
  | cons x xs ih =>
    cases i with
    | zero => simp only [bitsOf, Nat.mul_zero, Nat.pow_zero, Nat.div_one, List.getElem_cons_zero]; omega
    | succ i =>
      have e : 2 ^ (7 * (i + 1)) = 128 * 2 ^ (7 * i) := pow_split 7 (7 * i) _ (by omega)
      rw [bitsOf, e, ← Nat.div_div_eq_div_mul, show (x % 128 + 128 * bitsOf xs) / 128 = bitsOf xs by omega]
      exact ih i (by simpa using hi)

/-- the seven bits at `m` stay the same when a multiple of `2 ^ t` is added and the sum is cut to `w` bits,
    if `m + 7 ≤ t ≤ w` -/
theorem window (B c m t w : Nat) (h1 : m + 7 ≤ t) (h2 : t ≤ w) :
    ((B + c * 2 ^ t) % 2 ^ w) / 2 ^ m % 128 = B / 2 ^ m % 128 := by
  have hw := pow_split m (w - m) w (by omega)
  have hd : 128 ∣ 2 ^ (w - m) := Nat.pow_dvd_pow 2 (show 7 ≤ w - m by omega)
  rw [hw, Nat.mod_mul_right_div_self, Nat.mod_mod_of_dvd _ hd]
  have ht : c * 2 ^ t = c * 2 ^ (t - m - 7) * 128 * 2 ^ m := by
    rw [Nat.mul_assoc, Nat.mul_assoc, show (128 : Nat) = 2 ^ 7 from rfl, ← Nat.pow_add, ← Nat.pow_add]
    congr 2; omega
  rw [ht, Nat.add_mul_div_right _ _ (Nat.pow_pos (by omega)), Nat.add_mul_mod_self_right]

theorem unpackSpec_packSpec (s : List Nat) (h : ∀ x ∈ s, x < 128) : unpackSpec s.length (packSpec s) = s := by
  unfold unpackSpec packSpec
  simp only
  rw [foldr_octetsLE]
  apply List.ext_getElem
  · simp
  · intro i h1 h2
    simp only [List.length_map, List.length_range] at h1
    simp only [List.getElem_map, List.getElem_range]
    rw [show (256 : Nat) ^ ((7 * s.length + 7) / 8) = 2 ^ (8 * ((7 * s.length + 7) / 8)) from (Nat.pow_mul 2 8 _).symm]
    have hcr : (if 7 * s.length % 8 = 1 then 13 * 2 ^ (7 * s.length) else 0) =
        (if 7 * s.length % 8 = 1 then 13 else 0) * 2 ^ (7 * s.length) := by split <;> simp
    -- the CR filler lies above the bits of every septet
    rw [hcr, window (bitsOf s) _ (7 * i) (7 * s.length) _ (by omega) (by omega)]
    rw [bitsOf_septet s i h1, Nat.mod_eq_of_lt (h _ (List.getElem_mem h1))]

end SmsVerif.Gsm7
