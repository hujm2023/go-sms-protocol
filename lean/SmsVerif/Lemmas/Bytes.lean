/-
  Big-endian integers and NUL-padded text, as the packet primitives use them (C20): `be` and `fromBe`
  are inverse on values below `256 ^ k` and on octets; `cutAtNul` removes the padding of a text
  without NUL.
-/
import SmsVerif.Model.Bytes

namespace SmsVerif

@[simp] theorem be_length (k n : Nat) : (be k n).length = k := by
  induction k with
  | zero => rfl
  | succ k ih => simp [be, ih]

theorem foldl_be_acc (bs : Bytes) (a : Nat) :
    bs.foldl (fun acc b => acc * 256 + b) a = a * 256 ^ bs.length + fromBe bs := by
  induction bs generalizing a with
  | nil => simp [fromBe]
  | cons b bs ih =>
    simp only [List.foldl_cons, List.length_cons, fromBe]
    rw [ih, ih (0 * 256 + b)]
    simp [Nat.pow_succ, Nat.add_mul, Nat.mul_assoc, Nat.mul_comm 256, Nat.add_assoc]

theorem fromBe_cons (b : Nat) (bs : Bytes) : fromBe (b :: bs) = b * 256 ^ bs.length + fromBe bs := by
  simp only [fromBe, List.foldl_cons]
  rw [foldl_be_acc]; simp [fromBe]

@[simp] theorem fromBe_nil : fromBe [] = 0 := rfl

theorem fromBe_be (k n : Nat) : fromBe (be k n) = n % 256 ^ k := by
  induction k with
  | zero => simp [be, Nat.mod_one]
  | succ k ih =>
    simp only [be, fromBe_cons, be_length, ih]
    have h : n % 256 ^ (k+1) = (n / 256 ^ k % 256) * 256 ^ k + n % 256 ^ k := by
      rw [Nat.pow_succ, Nat.mod_mul, Nat.add_comm, Nat.mul_comm]
    omega

theorem fromBe_be_of_lt {k n : Nat} (h : n < 256 ^ k) : fromBe (be k n) = n := by
  rw [fromBe_be, Nat.mod_eq_of_lt h]

theorem fromBe_lt (bs : Bytes) (h : ∀ b ∈ bs, b < 256) : fromBe bs < 256 ^ bs.length := by
  induction bs with
  | nil => simp
  | cons b bs ih =>
    rw [fromBe_cons]
    have hb : b < 256 := h b (by simp)
    have := ih (fun x hx => h x (by simp [hx]))
    simp only [List.length_cons, Nat.pow_succ]
    have : b * 256 ^ bs.length ≤ 255 * 256 ^ bs.length := Nat.mul_le_mul_right _ (by omega)
    omega

theorem be_add_mul (k a x : Nat) : be k (a * 256 ^ k + x) = be k x := by
  induction k generalizing a with
  | zero => rfl
  | succ k ih =>
    have e : a * 256 ^ (k + 1) + x = x + a * 256 * 256 ^ k := by
      rw [Nat.pow_succ, Nat.mul_assoc, Nat.mul_comm 256, Nat.add_comm]
    rw [be, be, e, Nat.add_mul_div_right _ _ (Nat.pow_pos (by decide)), Nat.add_mul_mod_self_right, Nat.add_comm x, ih]

theorem be_fromBe {k : Nat} (bs : Bytes) (hk : bs.length = k) (hb : ∀ b ∈ bs, b < 256) : be k (fromBe bs) = bs := by
  induction bs generalizing k with
  | nil => subst hk; rfl
  | cons b bs ih =>
    subst hk
    have hlt := fromBe_lt bs (fun x hx => hb x (by simp [hx]))
    rw [fromBe_cons, List.length_cons, be, be_add_mul, ih rfl (fun x hx => hb x (by simp [hx])),
      Nat.add_comm, Nat.add_mul_div_right _ _ (Nat.pow_pos (by decide)), Nat.div_eq_of_lt hlt, Nat.zero_add,
      Nat.mod_eq_of_lt (hb b (by simp))]

theorem be_lt (k n : Nat) : ∀ b ∈ be k n, b < 256 := by
  induction k with
  | zero => simp [be]
  | succ k ih =>
    intro b hb
    simp only [be, List.mem_cons] at hb
    rcases hb with rfl | hb
    · exact Nat.mod_lt _ (by decide)
    · exact ih b hb

@[simp] theorem zeros_length (n : Nat) : (zeros n).length = n := by simp [zeros]

theorem hasNul_cons (b : Nat) (bs : Bytes) : hasNul (b :: bs) = false ↔ b ≠ 0 ∧ hasNul bs = false := by
  simp [hasNul]

theorem cutAtNul_append (s t : Bytes) (h : hasNul s = false) : cutAtNul (s ++ t) = s ++ cutAtNul t := by
  induction s with
  | nil => rfl
  | cons b bs ih =>
    obtain ⟨hb, hbs⟩ := (hasNul_cons b bs).1 h
    simp only [List.cons_append, cutAtNul, hb, if_false, ih hbs]

theorem cutAtNul_zeros (n : Nat) : cutAtNul (zeros n) = [] := by
  cases n <;> simp [zeros, List.replicate_succ, cutAtNul]

theorem cutAtNul_noNul (s : Bytes) : hasNul (cutAtNul s) = false := by
  induction s with
  | nil => rfl
  | cons b bs ih =>
    simp only [cutAtNul]
    split
    · rfl
    · exact (hasNul_cons _ _).2 ⟨‹_›, ih⟩

theorem cutAtNul_prefix (s : Bytes) : cutAtNul s <+: s := by
  induction s with
  | nil => simp [cutAtNul]
  | cons b bs ih =>
    simp only [cutAtNul]; split
    · exact List.nil_prefix
    · exact (List.cons_prefix_cons).2 ⟨rfl, ih⟩

theorem cutAtNul_length_le (s : Bytes) : (cutAtNul s).length ≤ s.length := (cutAtNul_prefix s).length_le

end SmsVerif
