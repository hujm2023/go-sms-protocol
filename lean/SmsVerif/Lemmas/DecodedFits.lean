/-
  `decode_fits`: whatever a decoder accepts meets the encoder's preconditions (C11).

  For a layout whose items pass the static check `fitsOK` (every wire field is assigned once, a
  length / count reference points back to an integer field decoded earlier), every PDU value a
  decoder returns without error satisfies `Item.Fits` for every item: integers within their
  width, text without NUL and no longer than its slot, binary fields at exactly their width,
  bodies and lists as long as their decoded length / count field says, optional parameters with
  distinct tags and 16-bit sizes.
-/
import SmsVerif.Lemmas.LayoutRoundTrip

namespace SmsVerif

def Oct (b : Bytes) : Prop := ∀ x ∈ b, x < 256

theorem Oct.of_step {a b : Reader} {o m : Nat} (h : RdStep a b o m) (ho : Oct a.rest) : Oct b.rest :=
  fun x hx => ho x (h.sub x hx)

/-- integer items: the only ones whose field fits whether or not the read failed (a failed read yields 0) -/
def Item.isNum : Item → Bool | .num _ _ _ => true | _ => false

def IsNumAt (r : Rec) (g : String) : Prop := ∃ v, r.get? g = some (.num v)

theorem mentions_sub (it : Item) : ∀ g ∈ it.mentions, g ∈ it.sets ∨ g ∈ it.deps := by
  cases it <;> simp [Item.mentions, Item.sets, Item.deps]

def numOrAsg (it : Item) : Bool := it.isNum || it.isAsg

/-- The decoder statement of an item, on an arbitrary reader, assigns the item's field and nothing else,
    and its reader step (`DecOp.run_rdStep`) consumes the item's octets as the PDU then describes them.
    If it ends without a reader error, the field fits the item (an integer fits in any case: a failed
    read yields 0).  A length / count reference must already hold an integer and must not be the field
    assigned; a list the statement appends to must still be empty. -/
theorem Item.dec_spec (it : Item) {d : DecOp} (hd : it.decOp? = some d) {st st1 : DecState}
    (hrun : d.run st = .ok st1) (hdeps : ∀ g ∈ it.deps, IsNumAt st.r g ∧ g ∉ it.sets) :
    ∃ f v, it.sets = [f] ∧ st1.r = st.r.set f v ∧ RdStep st.rd st1.rd (d.over st.r) (it.wireLen st1.r) ∧
      (it.exact = true → Oct st.rd.rest → st.r.strs f = [] →
        st1.rd.err = none ∨ numOrAsg it = true → it.Fits st1.r) := by
  have hs := DecOp.run_rdStep hrun
  -- the value of the length / count field `l`, which the assignment of `f` leaves alone
  have dep : ∀ {f l : String}, it.deps = [l] → it.sets = [f] → ∃ x,
      (Expr.fld l).eval st.r = x ∧ ∀ v, (st.r.set f v).get? l = some (.num x) := fun {f l} hl hf => by
    obtain ⟨⟨x, hx⟩, hne⟩ := hdeps l (by simp [hl])
    have hne : l ≠ f := by simpa [hf] using hne
    exact ⟨x, by simp [Expr.eval, Rec.num, hx], fun v => by rw [Rec.get?_set_ne _ _ _ _ hne, hx]⟩
  cases it with
  | num k f c =>
    cases hd; cases hrun
    exact ⟨f, _, rfl, rfl, hs, fun _ ho _ _ => ⟨_, Rec.get?_set_self .., readNum_lt _ k ho⟩⟩
  | cstr f =>
    cases hd; simp only [DecOp.run, Except.ok.injEq] at hrun; subst hrun
    refine ⟨f, _, rfl, rfl, ?_, fun _ _ _ _ => ⟨_, Rec.get?_set_self .., readCString_noNul _⟩⟩
    simpa only [Item.wireLen, DecOp.reads, Rec.str, Rec.get?_set_self] using hs
  | fixedTrim f n =>
    cases hd; cases hrun
    exact ⟨f, _, rfl, rfl, hs, fun _ _ _ _ =>
      ⟨_, Rec.get?_set_self .., (readCStringN_shape _ n).1, (readCStringN_shape _ n).2⟩⟩
  | fixedRaw f n =>
    cases hd; cases hrun
    exact ⟨f, _, rfl, rfl, hs, fun _ _ _ he =>
      ⟨_, Rec.get?_set_self .., (readCStringNRaw_len _ n).2 (he.resolve_right nofun)⟩⟩
  | fixedHexOut f n =>
    cases hd; cases hrun
    exact ⟨f, _, rfl, rfl, hs, nofun⟩
  | hexBoth f n =>
    cases hd; cases hrun
    exact ⟨f, _, rfl, rfl, hs, fun _ ho _ he =>
      ⟨_, Rec.get?_set_self .., (readCStringNRaw_len _ n).2 (he.resolve_right nofun), fun x hx => ho x (readCStringNRaw_val _ n x hx)⟩⟩
  | body f l dyn =>
    cases hd; cases hrun
    obtain ⟨x, hev, hset⟩ := dep (f := f) rfl rfl
    refine ⟨f, _, rfl, rfl, ?_, fun _ _ _ he => ⟨_, Rec.get?_set_self .., ?_⟩⟩
    · simpa only [Item.wireLen, DecOp.reads, Rec.num, hset, hev] using hs
    · rw [hset, ← hev]; exact congrArg (some ∘ Val.num) ((readCStringNRaw_len st.rd _).2 (he.resolve_right nofun)).symm
  | rep f c n counted app =>
    obtain ⟨x, hev, hset⟩ := dep (f := f) rfl rfl
    have hw : ∀ v, (Item.rep f c n counted app).wireLen (st.r.set f v) = n * (Expr.fld c).eval st.r :=
      fun v => by simp only [Item.wireLen, Rec.num, hset, hev]
    -- whatever the reader holds, the loop returns as many entries as the count field says
    have hfits : ∀ rd, (Item.rep f c n counted app).Fits
        (st.r.set f (.strs (readRep rd n ((Expr.fld c).eval st.r) []).1)) := fun rd => by
      have shape := readRep_shape n ((Expr.fld c).eval st.r) rd [] (by simp)
      exact ⟨_, Rec.get?_set_self .., by rw [hset, shape.1, hev]; simp, shape.2⟩
    cases app with
    | false =>
      cases hd; cases hrun
      exact ⟨f, _, rfl, rfl, hw _ ▸ hs, fun _ _ _ _ => hfits _⟩
    | true =>
      cases hd; cases hrun
      exact ⟨f, _, rfl, rfl, hw _ ▸ hs, fun _ _ hnil _ => by rw [hnil, List.nil_append]; exact hfits _⟩
  | asg c as => cases hd
  | tail f parse =>
    cases parse with
    | false =>
      cases hd; cases hrun
      exact ⟨f, _, rfl, rfl, hs, fun _ ho _ _ => ⟨_, Rec.get?_set_self .., readTlvs_mapOK st.rd ho⟩⟩
    | true =>
      cases hd
      simp only [↓reduceIte, DecOp.run] at hrun
      have hob : Oct st.rd.rest → Oct st.rd.bytes := fun ho => by
        unfold Reader.bytes; split
        · nofun
        · exact ho
      split at hrun <;> cases hrun
      · rename_i m hm
        exact ⟨f, _, rfl, rfl, hs, fun _ ho _ _ =>
          ⟨_, Rec.get?_set_self .., parseOptions_mapOK _ (hob ho) m hm⟩⟩
      · exact ⟨f, _, rfl, rfl, hs, fun _ _ _ _ => ⟨_, Rec.get?_set_self .., MapOK_nil⟩⟩

/-- every wire field is assigned once; a length / count reference points back to an integer field
    decoded earlier; no item reads back as something its encoder cannot take (`fixedHexOut`) -/
def fitsOK : List String → List Item → Bool
  | _, [] => true
  | nums, it :: rest =>
    it.exact && it.deps.all nums.contains && it.sets.all (fun g => !nums.contains g) &&
    it.sets.all (fun g => !(allSets rest).contains g) &&
    fitsOK (if it.isNum then it.sets ++ nums else nums) rest

theorem fitsOK_cons {nums : List String} {it : Item} {rest : List Item} (h : fitsOK nums (it :: rest) = true) :
    it.exact = true ∧ (∀ g ∈ it.deps, g ∈ nums) ∧ (∀ g ∈ it.sets, g ∉ nums ∧ g ∉ allSets rest) ∧
      fitsOK (if it.isNum = true then it.sets ++ nums else nums) rest = true := by
  simp only [fitsOK, Bool.and_eq_true, List.all_eq_true, Bool.not_eq_true', List.contains_eq_mem,
    decide_eq_true_eq, decide_eq_false_iff_not] at h
  exact ⟨h.1.1.1.1, h.1.1.1.2, fun g hg => ⟨h.1.1.2 g hg, h.1.2 g hg⟩, h.2⟩

/-- the integer fields `fitsOK` knows of after an item that assigns `f` -/
theorem mem_nums_next {it : Item} {f g : String} {nums : List String} (hsets : it.sets = [f]) :
    g ∈ (if it.isNum = true then it.sets ++ nums else nums) ↔ g = f ∧ it.isNum = true ∨ g ∈ nums := by
  rw [hsets]; split <;> simp [*]

theorem Item.isNumAt_of_fits {it : Item} {r : Rec} {f : String} (hn : it.isNum = true) (hs : it.sets = [f])
    (h : it.Fits r) : IsNumAt r f := by
  cases it <;> cases hn
  cases hs
  exact h.imp fun _ => And.left

theorem allSets_cons (it : Item) (its : List Item) : allSets (it :: its) = it.sets ++ allSets its :=
  List.flatMap_cons ..

theorem wireSum_cons (r : Rec) (it : Item) (its : List Item) : wireSum r (it :: its) = it.wireLen r + wireSum r its :=
  rfl

/-- the fields a statement list assigns are still at their zero value (lists are empty) -/
def Untouched (its : List Item) (r : Rec) : Prop := ∀ g ∈ allSets its, r.strs g = []

/-- The decoder statements of `its`, run to the end, are one reader step that consumes the items'
    octets as the decoded PDU describes them, and every wire item whose statement left no reader
    error behind (an integer item in any case) fits the decoded PDU.  `nums`: the integer fields decoded so
    far; they and the fields no statement assigns are as they were. -/
theorem runDec_fits (its : List Item) (nums : List String) (hok : fitsOK nums its = true)
    (st st' : DecState) (hrun : runDec (its.filterMap Item.decOp?) st = .ok st') (ho : Oct st.rd.rest)
    (hnums : ∀ g ∈ nums, IsNumAt st.r g) (hunt : Untouched its st.r) :
    (∀ g, g ∈ nums ∨ g ∉ allSets its → st'.r.get? g = st.r.get? g) ∧
      (∃ o, RdStep st.rd st'.rd o (wireSum st'.r its)) ∧
      ∀ it ∈ its, st'.rd.err = none ∨ numOrAsg it = true → it.Fits st'.r := by
  induction its generalizing nums st with
  | nil =>
    cases hrun
    exact ⟨fun _ _ => rfl, ⟨0, .refl _⟩, nofun⟩
  | cons it its ih =>
    obtain ⟨hx, hdn, hs, hrest⟩ := fitsOK_cons hok
    cases hd : it.decOp? with
    | none =>
      -- a normalisation: the decoder has no statement for it; it assigns nothing and occupies no octet
      rw [List.filterMap_cons_none hd] at hrun
      cases it <;> cases hd
      obtain ⟨h2, h3, h4⟩ := ih nums hrest st hrun ho hnums hunt
      exact ⟨h2, by simpa only [wireSum_cons, Item.wireLen, Nat.zero_add] using h3,
        List.forall_mem_cons.2 ⟨fun _ => trivial, h4⟩⟩
    | some d =>
      rw [List.filterMap_cons_some hd] at hrun
      obtain ⟨st1, h1, hrun⟩ := runDec_cons_ok.1 hrun
      obtain ⟨f, v, hsets, hr1, hstep, hf⟩ := it.dec_spec hd h1 fun g hg =>
        ⟨hnums g (hdn g hg), fun hin => (hs g hin).1 (hdn g hg)⟩
      obtain ⟨hfn, hfr⟩ := hs f (by simp [hsets])
      have hmem : ∀ g, g ∈ allSets (it :: its) ↔ g = f ∨ g ∈ allSets its := fun g => by
        rw [allSets_cons, hsets]; exact List.mem_cons
      have hfit := hf hx ho (hunt f ((hmem f).2 (.inl rfl)))
      have hget : ∀ g, g ≠ f → st1.r.get? g = st.r.get? g := fun g hg => by rw [hr1, Rec.get?_set_ne _ _ _ _ hg]
      obtain ⟨h2, ⟨o, hsteps⟩, h4⟩ := ih _ hrest st1 hrun (Oct.of_step hstep ho)
        (fun g hg => by
          rcases (mem_nums_next hsets).1 hg with ⟨rfl, hn⟩ | hg
          · exact Item.isNumAt_of_fits hn hsets (hfit (.inr (Bool.or_eq_true_iff.2 (.inl hn))))
          · obtain ⟨x, hx⟩ := hnums g hg
            exact ⟨x, by rw [hget g fun e => hfn (e ▸ hg), hx]⟩)
        (fun g hg => by
          rw [strs_congr (hget g fun e => hfr (e ▸ hg))]
          exact hunt g ((hmem g).2 (.inr hg)))
      -- the later statements leave alone what this item reads: its own field and integer fields decoded before
      have hment : AgreeOn it.mentions st'.r st1.r := fun g hg =>
        h2 g <| (mentions_sub it g hg).elim (fun h => .inr (by rwa [show g = f by simpa [hsets] using h]))
          fun h => .inl ((mem_nums_next hsets).2 (.inr (hdn g h)))
      refine ⟨fun g hg => ?_, ⟨d.over st.r + o, ?_⟩, List.forall_mem_cons.2
        -- errors are sticky: if the run ends without one, so did the first statement
        ⟨fun he => it.fits_congr hment (hfit (he.imp_left hsteps.ok_of_ok)), h4⟩⟩
      · have hgf : g ≠ f := fun e => hg.elim (fun h => hfn (e ▸ h)) fun h => h ((hmem g).2 (.inl e))
        rw [h2 g (hg.imp (fun h => (mem_nums_next hsets).2 (.inr h)) fun h hin => h ((hmem g).2 (.inr hin))),
          hget g hgf]
      · rw [wireSum_cons, wireLen_congr it hment]
        exact hstep.trans hsteps

/-- the declared width of the integer item carrying field `f` (0: none) -/
def widthOf : List Item → String → Nat
  | [], _ => 0
  | .num k g _ :: rest, f => if g = f then k else widthOf rest f
  | _ :: rest, f => widthOf rest f

theorem widthOf_mem (its : List Item) (k : Nat) (f : String) (c : Bool) (hm : Item.num k f c ∈ its)
    (hw : ∀ k' c', Item.num k' f c' ∈ its → k' = widthOf its f) : k = widthOf its f := hw k c hm

/-- an assigned expression is a conversion to a type no wider than the field's wire width -/
def asgBounded (its : List Item) (fe : String × Expr) : Bool :=
  match fe.2 with
  | .conv k _ => decide (k ≤ widthOf its fe.1) && decide (0 < widthOf its fe.1)
  | _ => false

theorem asgBounded_sound (its : List Item) (fe : String × Expr) (h : asgBounded its fe = true) (ρ : Rec) :
    fe.2.eval ρ < 256 ^ widthOf its fe.1 := by
  unfold asgBounded at h
  split at h
  · rename_i k e heq
    simp only [Bool.and_eq_true, decide_eq_true_eq] at h
    rw [heq, Expr.eval]
    exact Nat.lt_of_lt_of_le (Nat.mod_lt _ (Nat.pow_pos (by omega))) (Nat.pow_le_pow_right (by omega) h.1)
  · cases h

/-- normalisation targets are integer items; nothing else mentions a target -/
def normOK (its : List Item) : Bool :=
  let T := its.flatMap Item.targets
  its.all (fun it => match it with
    | .asg _ as => as.all (asgBounded its)
    | .num k f _ => !T.contains f || k == widthOf its f
    | other => other.mentions.all (fun g => !T.contains g))

/-- "Every item fits" is one of the properties every store of `norm` preserves: an item that does not
    read the target fits as before, and the only items that read it are integer items of the width the
    stored conversion stays within. -/
theorem norm_fits (its : List Item) (hn : normOK its = true) (r : Rec)
    (hf : ∀ it ∈ its, it.Fits r) : ∀ it ∈ its, it.Fits (norm its r) := by
  simp only [normOK, List.all_eq_true] at hn
  refine norm_ind (P := fun σ => ∀ it ∈ its, it.Fits σ) its (fun c as hm fe hfe ρ σ hσ it hit => ?_) r hf
  have keep : fe.1 ∉ it.mentions → it.Fits (σ.set fe.1 (.num (fe.2.eval ρ))) := fun h =>
    it.fits_congr (fun g hg => Rec.get?_set_ne _ _ _ _ fun e => h (e ▸ hg)) (hσ it hit)
  have hT : fe.1 ∈ its.flatMap Item.targets := List.mem_flatMap.2 ⟨_, hm, List.mem_map.2 ⟨fe, hfe, rfl⟩⟩
  cases it with
  | asg c as => trivial
  | num k f c =>
    by_cases e : fe.1 = f
    · have hk := hn _ hit
      simp only [← e, List.contains_eq_mem, hT, decide_true, Bool.not_true, Bool.false_or, beq_iff_eq] at hk
      exact ⟨_, e ▸ Rec.get?_set_self .., hk ▸ asgBounded_sound its fe (List.all_eq_true.1 (hn _ hm) fe hfe) ρ⟩
    · exact keep (by simpa [Item.mentions] using e)
  | _ =>
    refine keep fun h => ?_
    have := List.all_eq_true.1 (hn _ hit) _ h
    simp [hT] at this

/-- every normalisation is `if len(p.list) != int(p.count) { p.count = … }` for a list item that
    reads that very count (sgip12.Submit) -/
def asgIdleOK (its : List Item) : Bool :=
  its.all fun it => match it with
    | .asg (some (.ne (.lenOf f) (.fld c))) _ =>
      its.any fun x => match x with | .rep f' c' _ _ _ => f' == f && c' == c | _ => false
    | .asg _ _ => false
    | _ => true

/-- on a PDU whose list item fits, `len(p.list) != int(p.count)` is false: the fix-up does nothing -/
theorem applyAsg_idle (all : List Item) (r : Rec) (hf : ∀ it ∈ all, it.Fits r)
    (hok : asgIdleOK all = true) (c : Option Cond) (as : List (String × Expr)) (hm : Item.asg c as ∈ all) :
    applyAsg c as r = r := by
  have hit := List.all_eq_true.1 hok _ hm
  split at hit
  · rename_i heq
    cases heq
    obtain ⟨x, hx, hxm⟩ := List.any_eq_true.1 hit
    split at hxm
    · simp only [Bool.and_eq_true, beq_iff_eq] at hxm
      obtain ⟨rfl, rfl⟩ := hxm
      obtain ⟨l, hl, hc, _⟩ := hf _ hx
      simp [applyAsg, Cond.eval, Expr.eval, hl, Rec.num, hc]
    · cases hxm
  · cases hit
  · rename_i h; exact (h c as rfl).elim

theorem norm_idle (all : List Item) (r : Rec) (hf : ∀ it ∈ all, it.Fits r)
    (hok : asgIdleOK all = true) : ∀ (its : List Item), (∀ it ∈ its, it ∈ all) → norm its r = r
  | [], _ => rfl
  | it :: rest, hsub => by
    have ih := norm_idle all r hf hok rest fun x hx => hsub x (List.mem_cons_of_mem _ hx)
    cases it with
    | asg c as => rw [norm, applyAsg_idle all r hf hok c as (hsub _ List.mem_cons_self)]; exact ih
    | _ => exact ih

/-- The static check behind `decode_fits`: `fitsOK` for the decoded value itself; for its normal form,
    either every normalisation stores a value within its target's width (`normOK`) or it is the
    count fix-up that a decoded PDU never triggers (`asgIdleOK`).  A decoder that returns `nil`
    whatever the reader recorded may only hold integers: they alone fit after a failed read.
    `decode_fits` makes no use of the conjunct on the length field. -/
def PduDesc.checkDecodedFits (p : PduDesc) : Bool :=
  match p.items with
  | none => false
  | some (lf, its) =>
    fitsOK [] its && (p.fin != .withLength || !(allSets its).contains lf) && (normOK its || asgIdleOK its) &&
    (p.ret != .nilAlways || its.all numOrAsg) && p.dec.all (fun d => !d.isStop)

/-- Whatever `IDecode` accepts satisfies the preconditions of `IEncode` (after the
    encoder's own normalisation of its receiver); and — unless the decoder never reports errors — the
    input contained every octet of every mandatory field the decoded PDU claims (`wireSum`) -/
theorem decode_fits (p : PduDesc) (h : p.checkDecodedFits = true) (data : Bytes) (ho : Oct data) (r : Rec)
    (hdec : p.decode data = .ok r) :
    ∃ lf its, p.items = some (lf, its) ∧ (∀ it ∈ its, it.Fits (norm its r)) ∧
      (p.ret ≠ .nilAlways → wireSum r its + (if p.fin = .withLength then 4 else 0) ≤ data.length) := by
  unfold PduDesc.checkDecodedFits at h
  cases hitems : p.items with
  | none => simp [hitems] at h
  | some pr =>
    obtain ⟨lf, its⟩ := pr
    simp only [hitems, Bool.and_eq_true, Bool.or_eq_true, bne_iff_ne, ne_eq, Bool.not_eq_true'] at h
    obtain ⟨⟨⟨⟨hok, _⟩, hnorm⟩, hret⟩, hns⟩ := h
    -- what ran: the guard, the read of the length word if the encoder prefixes one, the items' statements
    obtain ⟨ds, hp, hbody⟩ := PduDesc.items_some hitems
    rw [decBody_filter_noStop hns, (pairOps_some hp).2] at hbody
    obtain ⟨st', hrun, rfl, herr⟩ := decode_ok_run hns hdec
    rw [runDec_decBody, hbody] at hrun
    obtain ⟨st1, hrun1, hs1, hunt1⟩ : ∃ st1, runDec (its.filterMap Item.decOp?) st1 = .ok st' ∧
        RdStep ⟨data, none, 0⟩ st1.rd 0 (if p.fin = .withLength then 4 else 0) ∧ Untouched its st1.r := by
      split at hrun
      · rename_i hfin
        simp only [runDec, DecOp.run] at hrun
        refine ⟨_, hrun, by rw [if_pos hfin]; exact readNum_step .., fun g _ => ?_⟩
        by_cases hg : g = lf
        · simp [hg, Rec.strs, Rec.get?_set_self]
        · rw [strs_congr (Rec.get?_set_ne _ _ _ _ hg)]; exact fresh_strs_nil p g
      · rename_i hfin
        exact ⟨_, hrun, by rw [if_neg hfin]; exact .refl _, fun g _ => fresh_strs_nil p g⟩
    obtain ⟨_, ⟨_, hs⟩, hfit⟩ := runDec_fits its [] hok st1 st' hrun1 (Oct.of_step hs1 ho) nofun hunt1
    have hfit : ∀ it ∈ its, it.Fits st'.r := fun it hit =>
      hfit it hit (hret.imp herr fun h => List.all_eq_true.1 h it hit)
    refine ⟨lf, its, rfl, ?_, fun hr => ?_⟩
    · rcases hnorm with hn | hn
      · exact norm_fits its hn _ hfit
      · rw [norm_idle its _ hfit hn its fun _ h => h]
        exact hfit
    · have := (hs1.trans hs).cons (herr hr)
      simp only at this
      omega

end SmsVerif
