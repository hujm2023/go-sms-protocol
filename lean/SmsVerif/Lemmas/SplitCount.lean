/-
  How many parts (C07): bounds that hold for every content, from the boundary rules alone.

  A rule that moves a cut back by at most `s` units (`s < per`) yields between ⌈n/per⌉ and
  ⌈n/(per-s)⌉ parts.  Hence the 255-part refusal is decided by the length alone outside the window
  `255·(per-s) < n ≤ 255·per`, and inside it by the real cuts — never by ⌈n/per⌉.
-/
import SmsVerif.Lemmas.Split

namespace SmsVerif.Split

/-- the rule never moves the tentative end `b + per` back by more than `s` units -/
def BacksUpAtMost (bnd : Boundary) (d : List Nat) (per s : Nat) : Prop :=
  ∀ b, b + per - s ≤ bnd d b (b + per)

theorem partition_lower (per n : Nat) (cuts : List Nat) (b : Nat) (h : Partition per n b cuts) :
    n - b ≤ cuts.length * per := by
  induction cuts generalizing b with
  | nil => simp only [Partition] at h; subst h; simp
  | cons e rest ih =>
    obtain ⟨h1, h2, h3, h4⟩ := h
    have := ih e h4
    simp only [List.length_cons, Nat.succ_mul]
    omega

theorem cutPoints_upper (bnd : Boundary) (d : List Nat) (per s : Nat) (hs : s < per)
    (hb : BacksUpAtMost bnd d per s) (fuel b : Nat) :
    (cutPoints bnd d per fuel b).length * (per - s) < (d.length - b) + (per - s) := by
  fun_induction cutPoints bnd d per fuel b with
  | case1 | case2 | case3 => simp only [List.length_nil, List.length_singleton]; omega
  | case4 _ b _ _ e e' ih =>
    have he : b + per - s ≤ e' ∧ e' ≤ b + per := by
      have := hb b
      simp only [e', e]; split <;> omega
    simp only [List.length_cons, Nat.succ_mul]
    omega

theorem noBoundary_backs (d : List Nat) (per : Nat) : BacksUpAtMost noBoundary d per 0 := by
  intro b; simp [noBoundary]

theorem gsmBoundary_backs (d : List Nat) (per : Nat) : BacksUpAtMost gsmBoundary d per 1 := by
  intro b; unfold gsmBoundary; split <;> omega

theorem ucs2Boundary_backs (d : List Nat) (per : Nat) : BacksUpAtMost ucs2Boundary d per 2 := by
  intro b; unfold ucs2Boundary; split <;> omega

theorem gbScan_ge (d : List Nat) (e : Nat) : ∀ (fuel pos : Nat), pos ≤ e → e - pos ≤ fuel →
    e - 3 ≤ gbScan d e fuel pos := by
  intro fuel
  induction fuel with
  | zero => intro pos h1 h2; simp only [gbScan]; omega
  | succ fuel ih =>
    intro pos h1 h2
    have hl := gbCharLen_le d pos
    simp only [gbScan]
    split
    · rename_i hn; exact ih _ hn (by omega)
    · omega

theorem gbBoundary_backs (d : List Nat) (per : Nat) : BacksUpAtMost gbBoundary d per 3 := by
  intro b
  unfold gbBoundary
  have := gbScan_ge d (b + per) (b + per - b) b (by omega) (by omega)
  dsimp only
  split <;> omega

end SmsVerif.Split
