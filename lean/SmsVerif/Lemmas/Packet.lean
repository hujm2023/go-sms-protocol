/-
  The packet primitives, characterised once (C20; the decoders of C01, C03, C11 run on them).  A write
  on a healthy writer appends (`Writer.app`), on a failed one does nothing.  Every read primitive is
  one function, `Reader.read`, at its own width, result and error kind (`readNum_eq` … `readCString_eq`);
  what the other files need of the readers is read off that function: the inverse of a write, the
  position staying inside the input, what a read returns, and what it may do to the reader (`RdStep`:
  it only consumes, it requests from the allocator no more than it consumes, a recorded error stays, a
  read without error consumed its width).
-/
import SmsVerif.Model.Packet
import SmsVerif.Lemmas.Bytes

namespace SmsVerif

def Writer.app (w : Writer) (bs : Bytes) : Writer :=
  { w with buf := w.buf ++ bs, written := w.written + bs.length }

theorem Writer.app_nil (w : Writer) : w.app [] = w := by simp [Writer.app]

theorem Writer.app_app (w : Writer) (a b : Bytes) : (w.app a).app b = w.app (a ++ b) := by
  simp [Writer.app, List.append_assoc, Nat.add_assoc]

theorem Writer.app_err (w : Writer) (bs : Bytes) : (w.app bs).err = w.err := rfl

section
variable {w : Writer} (hw : w.err = none)
include hw

theorem Writer.writeNum_ok (k n : Nat) : w.writeNum k n = w.app (be k n) := by
  simp [Writer.writeNum, hw, Writer.app]

theorem Writer.writeBytes_ok (d : Bytes) : w.writeBytes d = w.app d := by
  simp [Writer.writeBytes, hw, Writer.app]

theorem Writer.writeCString_ok (s : Bytes) : w.writeCString s = w.app (s ++ [0]) := by
  simp [Writer.writeCString, hw, Writer.app, Nat.add_assoc]

theorem Writer.writeFixed_ok {s : Bytes} {n : Nat} (h : s.length ≤ n) :
    w.writeFixed s n = w.app (s ++ zeros (n - s.length)) := by
  have hlen : s.length + (n - s.length) = n := by omega
  simp [Writer.writeFixed, hw, Nat.not_lt.2 h, Writer.app, hlen]

theorem Writer.writeFixed_long {s : Bytes} {n : Nat} (h : n < s.length) :
    w.writeFixed s n = { w with err := some .tooLong } := by
  simp [Writer.writeFixed, hw, h]

end

section
variable {w : Writer} {e : PErr} (hw : w.err = some e)
include hw

theorem Writer.writeNum_failed (k n : Nat) : w.writeNum k n = w := by simp [Writer.writeNum, hw]
theorem Writer.writeBytes_failed (d : Bytes) : w.writeBytes d = w := by simp [Writer.writeBytes, hw]
theorem Writer.writeCString_failed (s : Bytes) : w.writeCString s = w := by simp [Writer.writeCString, hw]
theorem Writer.writeFixed_failed (s : Bytes) (n : Nat) : w.writeFixed s n = w := by simp [Writer.writeFixed, hw]

end

/-- A read of `n` octets.  While an error is pending: nothing happens, `z`.  With `n` octets buffered: they
    are taken, `f` of them is returned, and `δ` more have been requested from the allocator.  Otherwise the
    buffer is drained, `zf` is returned and an error recorded: `io.EOF` if nothing was buffered, else `e`. -/
def Reader.read {α : Type} (r : Reader) (n δ : Nat) (f : Bytes → α) (z zf : α) (e : PErr) : α × Reader :=
  match r.err with
  | some _ => (z, r)
  | none =>
    if n ≤ r.rest.length then (f (r.rest.take n), ⟨r.rest.drop n, none, r.alloc + δ⟩)
    else (zf, ⟨[], some (if r.rest.isEmpty then .eof else e), r.alloc⟩)

/-! Every primitive is one such read.  The definitions test "nothing buffered", "nothing asked for" and "too little
    buffered" (`length < n`, hence `← Nat.not_le`) each in its own order: with the buffer empty or not and
    the width zero or not, both sides are the same test of the width against what is buffered. -/

theorem readNum_eq (r : Reader) (k : Nat) : r.readNum k = r.read k 0 fromBe 0 0 .unexpectedEOF := by
  obtain ⟨bs, _ | e, a⟩ := r
  · cases bs <;> simp [Reader.readNum, Reader.read]
  · rfl

theorem readCStringNRaw_eq (r : Reader) (n : Nat) : r.readCStringNRaw n = r.read n n id [] [] .short := by
  obtain ⟨bs, _ | e, a⟩ := r
  · cases bs <;> cases n <;> simp [Reader.readCStringNRaw, Reader.readExact, Reader.read, ← Nat.not_le]
    split <;> rfl
  · rfl

theorem readCStringN_eq (r : Reader) (n : Nat) : r.readCStringN n = r.read n n cutAtNul [] [] .short := by
  obtain ⟨bs, _ | e, a⟩ := r
  · cases bs <;> cases n <;> simp [Reader.readCStringN, Reader.readExact, Reader.read, ← Nat.not_le, cutAtNul]
    split <;> rfl
  · rfl

theorem readBytes_eq (r : Reader) (n : Nat) :
    r.readBytes n = r.read n 0 id (zeros n) (r.rest ++ zeros (n - r.rest.length)) .short := by
  obtain ⟨bs, _ | e, a⟩ := r
  · cases bs <;> cases n <;> simp [Reader.readBytes, Reader.read, ← Nat.not_le]
  · rfl

theorem splitNul_eq (bs : Bytes) : Reader.splitNul bs =
    if (cutAtNul bs).length + 1 ≤ bs.length then some (cutAtNul bs, bs.drop ((cutAtNul bs).length + 1)) else none := by
  induction bs with
  | nil => rfl
  | cons b bs ih =>
    by_cases hb : b = 0
    · simp [Reader.splitNul, cutAtNul, hb]
    · by_cases h : (cutAtNul bs).length + 1 ≤ bs.length <;> simp [Reader.splitNul, cutAtNul, hb, ih, h]

/-- `ReadCString` takes the text before the first NUL and the NUL, if there is one -/
theorem readCString_eq (r : Reader) :
    r.readCString = r.read ((cutAtNul r.rest).length + 1) 0 (fun _ => cutAtNul r.rest) [] [] .eof := by
  obtain ⟨bs, _ | e, a⟩ := r
  · by_cases h : (cutAtNul bs).length + 1 ≤ bs.length <;> simp [Reader.readCString, Reader.read, splitNul_eq, h]
  · rfl

section
variable {α : Type} {r : Reader} {n δ : Nat} {f : Bytes → α} {z zf : α} {e : PErr}

theorem Reader.read_append {t rest : Bytes} {a : Nat} (ht : t.length = n) :
    Reader.read ⟨t ++ rest, none, a⟩ n δ f z zf e = (f t, ⟨rest, none, a + δ⟩) := by
  subst ht; simp [Reader.read]

theorem Reader.read_pending {e' : PErr} (h : r.err = some e') : r.read n δ f z zf e = (z, r) := by
  simp [Reader.read, h]

theorem Reader.read_suffix : (r.read n δ f z zf e).2.rest <:+ r.rest := by
  unfold Reader.read
  split
  · exact List.suffix_refl _
  · split
    · exact List.drop_suffix n _
    · exact List.nil_suffix

end

theorem Reader.read_prefix {r : Reader} {n δ : Nat} {f : Bytes → Bytes} {e : PErr}
    (hf : ∀ t, t <+: r.rest → f t <+: r.rest) : (r.read n δ f [] [] e).1 <+: r.rest := by
  unfold Reader.read
  split
  · exact List.nil_prefix
  · split
    · exact hf _ (List.take_prefix ..)
    · exact List.nil_prefix

theorem readNum_append (k n : Nat) (rest : Bytes) (a : Nat) (h : n < 256 ^ k) :
    Reader.readNum ⟨be k n ++ rest, none, a⟩ k = (n, ⟨rest, none, a⟩) := by
  rw [readNum_eq, Reader.read_append (be_length k n), fromBe_be_of_lt h]; rfl

theorem readCStringNRaw_append (t rest : Bytes) (a : Nat) :
    Reader.readCStringNRaw ⟨t ++ rest, none, a⟩ t.length = (t, ⟨rest, none, a + t.length⟩) := by
  rw [readCStringNRaw_eq, Reader.read_append rfl]; rfl

/-- what `WriteFixedLenString(s, n)` wrote, read back -/
theorem readCStringN_fixed {s : Bytes} {n : Nat} (hs : hasNul s = false) (hl : s.length ≤ n) (rest : Bytes) (a : Nat) :
    Reader.readCStringN ⟨s ++ (zeros (n - s.length) ++ rest), none, a⟩ n = (s, ⟨rest, none, a + n⟩) := by
  rw [← List.append_assoc, readCStringN_eq, Reader.read_append (by simp; omega), cutAtNul_append s _ hs, cutAtNul_zeros, List.append_nil]

theorem readCString_append (s rest : Bytes) (a : Nat) (h : hasNul s = false) :
    Reader.readCString ⟨s ++ 0 :: rest, none, a⟩ = (s, ⟨rest, none, a⟩) := by
  simp [readCString_eq, Reader.read, cutAtNul_append s _ h, cutAtNul]

/-- `b` is the reader `a` after some reads: `over` bounds what was requested from the allocator
    beyond the octets consumed, `minc` is what a read without error must have consumed (`cons`; once an
    error is recorded only `len` is left of it). -/
structure RdStep (a b : Reader) (over minc : Nat) : Prop where
  sub : ∀ x ∈ b.rest, x ∈ a.rest
  alloc : b.alloc + b.rest.length ≤ a.alloc + a.rest.length + over
  sticky : a.err ≠ none → b.err ≠ none
  cons : b.err = none → b.rest.length + minc ≤ a.rest.length
  len : b.rest.length ≤ a.rest.length

theorem RdStep.refl (a : Reader) : RdStep a a 0 0 :=
  ⟨fun _ h => h, by omega, fun h => h, fun _ => by omega, by omega⟩

theorem RdStep.ofErr {r : Reader} {e : PErr} (he : r.err = some e) (m : Nat) : RdStep r r 0 m :=
  ⟨fun _ h => h, by omega, fun h => h, fun hc => by simp [he] at hc, by omega⟩

theorem RdStep.ok_of_ok {a b : Reader} {o m : Nat} (h : RdStep a b o m) (hb : b.err = none) : a.err = none :=
  Decidable.byContradiction fun ha => h.sticky ha hb

theorem RdStep.trans {a b c : Reader} {o1 m1 o2 m2 : Nat} (h1 : RdStep a b o1 m1) (h2 : RdStep b c o2 m2) :
    RdStep a c (o1 + o2) (m1 + m2) := by
  refine ⟨fun x hx => h1.sub x (h2.sub x hx), ?_, fun h => h2.sticky (h1.sticky h), ?_, ?_⟩
  · have := h1.alloc; have := h2.alloc; have := h2.len; omega
  · intro hc
    have := h1.cons (h2.ok_of_ok hc); have := h2.cons hc; omega
  · have := h1.len; have := h2.len; omega

theorem RdStep.weaken {a b : Reader} {o m o' m' : Nat} (h : RdStep a b o m) (ho : o ≤ o') (hm : m' ≤ m) :
    RdStep a b o' m' :=
  ⟨h.sub, by have := h.alloc; omega, h.sticky, fun hc => by have := h.cons hc; omega, h.len⟩

theorem mem_drop {α} {x : α} {n : Nat} {l : List α} (h : x ∈ l.drop n) : x ∈ l :=
  List.mem_of_mem_drop h

theorem RdStep.took {a b : Reader} {n : Nat} (he : b.err = a.err) (hn : n ≤ a.rest.length)
    (hr : b.rest = a.rest.drop n) (ha : b.alloc ≤ a.alloc + n) : RdStep a b 0 n := by
  have hl : b.rest.length + n = a.rest.length := by rw [hr, List.length_drop]; omega
  exact ⟨fun x hx => mem_drop (hr ▸ hx), by omega, fun h => he ▸ h, fun _ => by omega, by omega⟩

theorem RdStep.failed (a : Reader) {rest : Bytes} (e : PErr) (hr : rest = a.rest ∨ rest = []) (m : Nat) :
    RdStep a ⟨rest, some e, a.alloc⟩ 0 m := by
  refine ⟨fun x hx => ?_, ?_, fun _ => by simp, fun hc => by simp at hc, ?_⟩ <;>
    rcases hr with hr | hr <;> simp_all

theorem Reader.read_step {α : Type} {r : Reader} {n δ : Nat} {f : Bytes → α} {z zf : α} {e : PErr} (hδ : δ ≤ n) :
    RdStep r (r.read n δ f z zf e).2 0 n := by
  unfold Reader.read
  split
  · exact .ofErr ‹_› _
  · split
    · exact .took ‹r.err = none›.symm ‹_› rfl (Nat.add_le_add_left hδ _)
    · exact .failed _ _ (.inr rfl) _

theorem readNum_step (r : Reader) (k : Nat) : RdStep r (r.readNum k).2 0 k :=
  readNum_eq r k ▸ Reader.read_step (Nat.zero_le _)

theorem readCStringNRaw_step (r : Reader) (n : Nat) : RdStep r (r.readCStringNRaw n).2 0 n :=
  readCStringNRaw_eq r n ▸ Reader.read_step (Nat.le_refl _)

theorem readCStringN_step (r : Reader) (n : Nat) : RdStep r (r.readCStringN n).2 0 n :=
  readCStringN_eq r n ▸ Reader.read_step (Nat.le_refl _)

theorem readNBytes_step (r : Reader) (n : Nat) : RdStep r (r.readNBytes n).2 0 n :=
  readCStringNRaw_step r n

theorem readBytes_step (r : Reader) (n : Nat) : RdStep r (r.readBytes n).2 0 n :=
  readBytes_eq r n ▸ Reader.read_step (Nat.zero_le _)

theorem readCString_step (r : Reader) : RdStep r r.readCString.2 0 1 :=
  readCString_eq r ▸ (Reader.read_step (Nat.zero_le _)).weaken (Nat.le_refl _) (Nat.le_add_left ..)

/-- the core of the string reads does not look at the recorded error, and `n = 0` is not special to it -/
theorem readExact_step (r : Reader) (n : Nat) : RdStep r (r.readExact n).2 0 n := by
  unfold Reader.readExact
  split
  · exact .failed _ _ (.inl rfl) _
  · split
    · exact .failed _ _ (.inr rfl) _
    · exact .took rfl (Nat.not_lt.1 ‹_›) rfl (Nat.le_refl _)

theorem readNum_lt (r : Reader) (k : Nat) (hb : ∀ x ∈ r.rest, x < 256) : (r.readNum k).1 < 256 ^ k := by
  have hp : 0 < 256 ^ k := Nat.pow_pos (by omega)
  rw [readNum_eq]; unfold Reader.read
  split
  · exact hp
  · split
    · have := fromBe_lt (r.rest.take k) fun x hx => hb x (List.mem_of_mem_take hx)
      rwa [List.length_take_of_le ‹_›] at this
    · exact hp

theorem readCStringNRaw_val (r : Reader) (n : Nat) : ∀ x ∈ (r.readCStringNRaw n).1, x ∈ r.rest := by
  rw [readCStringNRaw_eq]; unfold Reader.read
  split
  · nofun
  · split
    · exact fun x hx => List.mem_of_mem_take hx
    · nofun

theorem readCStringNRaw_len (r : Reader) (n : Nat) :
    (r.readCStringNRaw n).1.length ≤ n ∧ ((r.readCStringNRaw n).2.err = none → (r.readCStringNRaw n).1.length = n) := by
  rw [readCStringNRaw_eq]; unfold Reader.read
  split
  · rename_i he
    exact ⟨Nat.zero_le _, fun hc => by rw [he] at hc; cases hc⟩
  · split
    · exact ⟨Nat.le_of_eq (List.length_take_of_le ‹_›), fun _ => List.length_take_of_le ‹_›⟩
    · exact ⟨Nat.zero_le _, nofun⟩

theorem readCStringN_shape (r : Reader) (n : Nat) :
    hasNul (r.readCStringN n).1 = false ∧ (r.readCStringN n).1.length ≤ n := by
  rw [readCStringN_eq]; unfold Reader.read
  split
  · exact ⟨rfl, Nat.zero_le _⟩
  · split
    · exact ⟨cutAtNul_noNul _, Nat.le_trans (cutAtNul_length_le _) (List.length_take_le ..)⟩
    · exact ⟨rfl, Nat.zero_le _⟩

theorem readBytes_length (r : Reader) (n : Nat) : (r.readBytes n).1.length = n := by
  rw [readBytes_eq]; unfold Reader.read
  split
  · exact zeros_length n
  · split
    · exact List.length_take_of_le ‹_›
    · rw [List.length_append, zeros_length]; omega

theorem readBytes_val (r : Reader) (n : Nat) : ∀ x ∈ (r.readBytes n).1, x ∈ r.rest ∨ x = 0 := by
  have hz : ∀ m x, x ∈ zeros m → x = 0 := fun m x hx => (List.mem_replicate.1 hx).2
  rw [readBytes_eq]; unfold Reader.read
  split
  · exact fun x hx => .inr (hz _ _ hx)
  · split
    · exact fun x hx => .inl (List.mem_of_mem_take hx)
    · exact fun x hx => (List.mem_append.1 hx).imp id (hz _ _)

theorem readCString_noNul (r : Reader) : hasNul r.readCString.1 = false := by
  rw [readCString_eq]; unfold Reader.read
  split
  · rfl
  · split
    · exact cutAtNul_noNul _
    · rfl

theorem readCString_consumes (r : Reader) (h : r.readCString.2.err = none) :
    r.readCString.2.rest.length + (r.readCString.1.length + 1) = r.rest.length := by
  revert h
  rw [readCString_eq]; unfold Reader.read
  split
  · rename_i he
    exact fun h => by rw [he] at h; cases h
  · split
    · intro _
      show (r.rest.drop _).length + ((cutAtNul r.rest).length + 1) = _
      rw [List.length_drop]; omega
    · nofun

/-! ### `ReadBytes` on a reader without a pending error, as equations (the error kinds matter to the
    optional-parameter loop) -/

theorem readBytes_ok {bs : Bytes} {n : Nat} (h : n ≤ bs.length) (a : Nat) :
    Reader.readBytes ⟨bs, none, a⟩ n = (bs.take n, ⟨bs.drop n, none, a⟩) := by
  simp [readBytes_eq, Reader.read, h]

theorem readBytes_eof {n : Nat} (h : n ≠ 0) (a : Nat) :
    Reader.readBytes ⟨[], none, a⟩ n = (zeros n, ⟨[], some .eof, a⟩) := by
  simp [readBytes_eq, Reader.read, h]

theorem readBytes_short {bs : Bytes} {n : Nat} (h0 : bs ≠ []) (h : bs.length < n) (a : Nat) :
    Reader.readBytes ⟨bs, none, a⟩ n = (bs ++ zeros (n - bs.length), ⟨[], some .short, a⟩) := by
  simp [readBytes_eq, Reader.read, h0, Nat.not_le.2 h]

end SmsVerif
