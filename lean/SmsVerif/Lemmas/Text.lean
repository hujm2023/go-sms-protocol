/-
  Per-scalar codings (`Model/Text.lean`; C05, C14): what `encodeAll` accepts and emits, the shape of one
  code under each modelled coding, and that `step` reads it back (Windows-1252, UTF-16BE; for ASCII the
  code is the scalar).  Every fact about a coding (round trip, refusal, lengths, segmentation of the
  output) is read off these.
-/
import SmsVerif.Model.Text

namespace SmsVerif.Text

theorem encodeAll_eq_some_iff (c : Coding) (text out : List Nat) :
    encodeAll c text = some out ↔
      (∀ s ∈ text, ∃ u, c.code s = some u) ∧ (text.map fun s => (c.code s).getD []).flatten = out := by
  induction text generalizing out with
  | nil => simp [encodeAll, eq_comm]
  | cons s rest ih =>
    cases hc : c.code s with
    | none => simp [encodeAll, hc]
    | some u =>
      simp only [encodeAll, hc, Option.map_eq_some_iff, ih, List.map_cons, List.flatten_cons,
        Option.getD_some, List.forall_mem_cons]
      exact ⟨fun ⟨_, ⟨h, rfl⟩, e⟩ => ⟨⟨⟨u, rfl⟩, h⟩, e⟩, fun ⟨h, e⟩ => ⟨_, ⟨h.2, rfl⟩, e⟩⟩

/-- the statement of `C05.string_roundtrip`; it stands here because GSM 7-bit uses it from C08, which C05 imports -/
theorem decodeAll_encodeAll (c : Coding)
    (h1 : ∀ s u rest, c.code s = some u → c.step (u ++ rest) = some (s, rest))
    (hne : ∀ s u, c.code s = some u → u ≠ [])
    (text out : List Nat) (h : encodeAll c text = some out) (fuel : Nat) (hf : text.length < fuel) :
    decodeAll c fuel out = some text := by
  obtain ⟨f, rfl⟩ : ∃ f, fuel = f + 1 := ⟨fuel - 1, by omega⟩
  induction text generalizing out f with
  | nil =>
    obtain rfl : [] = out := by simpa [encodeAll] using h
    rfl
  | cons s rest ih =>
    simp only [encodeAll] at h
    cases hc : c.code s with
    | none => simp [hc] at h
    | some u =>
      obtain ⟨r, hr, rfl⟩ : ∃ r, encodeAll c rest = some r ∧ u ++ r = out := by simpa [hc] using h
      -- the code is not empty, so the decoder takes a step
      obtain ⟨x, xs, rfl⟩ := List.exists_cons_of_ne_nil (hne s _ hc)
      obtain ⟨f, rfl⟩ : ∃ f', f = f' + 1 := ⟨f - 1, by simp at hf; omega⟩
      have := h1 s _ r hc
      simp only [List.cons_append] at this ⊢
      simp [decodeAll, this, ih r hr f (by simpa using hf)]

theorem encodeAll_none (c : Coding) (pre post : List Nat) (s : Nat) (h : c.code s = none) :
    encodeAll c (pre ++ s :: post) = none := by
  cases ho : encodeAll c (pre ++ s :: post) with
  | none => rfl
  | some out =>
    obtain ⟨u, hu⟩ := ((encodeAll_eq_some_iff c _ out).1 ho).1 s (by simp)
    cases h ▸ hu

theorem lookupFrom_spec (t : List Nat) (s i j : Nat) (h : lookupFrom t s i = some j) :
    i ≤ j ∧ t[j - i]? = some s := by
  induction t generalizing i with
  | nil => simp [lookupFrom] at h
  | cons x xs ih =>
    simp only [lookupFrom] at h
    split at h
    · simp at h; subst h; simp [*]
    · obtain ⟨h1, h2⟩ := ih (i + 1) h
      refine ⟨by omega, ?_⟩
      have : j - i = (j - (i + 1)) + 1 := by omega
      rw [this]; simpa using h2

theorem ascii_code_eq_some {s : Nat} {u : List Nat} : ascii.code s = some u ↔ s < 128 ∧ u = [s] := by
  simp only [ascii]; split <;> simp [*, eq_comm]

theorem win1252_code_some {s : Nat} {u : List Nat} (h : win1252.code s = some u) :
    ∃ b, u = [b] ∧ b < 256 ∧ win1252Dec b = s := by
  simp only [win1252] at h
  split at h
  · obtain rfl : [s] = u := by simpa using h
    exact ⟨s, rfl, by omega, by unfold win1252Dec; rw [if_pos (by omega)]⟩
  · split at h
    · simp at h
    · obtain ⟨i, hi, rfl⟩ := Option.map_eq_some_iff.1 h
      have hget := (lookupFrom_spec _ _ _ _ hi).2
      have hlt : i < 32 := by simpa [win1252Hi] using (List.getElem?_eq_some_iff.1 hget).1
      refine ⟨_, rfl, by omega, ?_⟩
      unfold win1252Dec
      rw [if_neg (by omega), Nat.add_sub_cancel_left, List.getD_eq_getElem?_getD]
      simpa using congrArg (·.getD 0xFFFD) hget

theorem win1252_step_code (s : Nat) (u rest : List Nat) (hc : win1252.code s = some u) :
    win1252.step (u ++ rest) = some (s, rest) := by
  obtain ⟨b, rfl, hb, hd⟩ := win1252_code_some hc
  simp [win1252, hb, hd]

theorem utf16_code_some {s : Nat} {u : List Nat} (h : utf16.code s = some u) :
    (∃ w, u = [w / 256, w % 256] ∧ w = s ∧ ¬ (0xD800 ≤ w ∧ w < 0xE000) ∧ w < 0x10000) ∨
    (∃ hi lo, u = [hi / 256, hi % 256, lo / 256, lo % 256] ∧ 0xD800 ≤ hi ∧ hi < 0xDC00 ∧ 0xDC00 ≤ lo ∧ lo < 0xE000 ∧
      0x10000 + (hi - 0xD800) * 1024 + (lo - 0xDC00) = s) := by
  simp only [utf16] at h
  split at h
  · simp at h
  · rename_i hsc
    simp only [isScalar, Bool.or_eq_true, decide_eq_true_eq, Bool.and_eq_true, Decidable.not_not] at hsc
    split at h <;> obtain rfl := Option.some.inj h
    · exact .inl ⟨s, rfl, rfl, by omega, by omega⟩
    · exact .inr ⟨_, _, rfl, by omega, by omega, by omega, by omega, by omega⟩

theorem utf16_code_ne_nil {s : Nat} {u : List Nat} (h : utf16.code s = some u) : u ≠ [] := by
  rcases utf16_code_some h with ⟨_, rfl, _⟩ | ⟨_, _, rfl, _⟩ <;> simp

theorem utf16_step_code (s : Nat) (u rest : List Nat) (hc : utf16.code s = some u) :
    utf16.step (u ++ rest) = some (s, rest) := by
  have hdm : ∀ x : Nat, x / 256 * 256 + x % 256 = x := fun x => by omega
  rcases utf16_code_some hc with ⟨w, rfl, rfl, hns, _⟩ | ⟨hi, lo, rfl, h1, h2, h3, h4, rfl⟩
  · have n1 : ¬ (0xD800 ≤ w ∧ w < 0xDC00) := by omega
    have n2 : ¬ (0xDC00 ≤ w ∧ w < 0xE000) := by omega
    simp [utf16, hdm, n1, n2]
  · simp [utf16, hdm, h1, h2, h3, h4]

end SmsVerif.Text
