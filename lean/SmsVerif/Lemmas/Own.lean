/-
  The heap of `Model/Own.lean` (C12, C13): what `read` sees after `alloc` and `write`, and `Frame W h h'`:
  `h'` comes from `h` by allocating and by writing inside `W` or to what was allocated since, so that whoever
  owns an allocation of `h` outside `W` still reads what it read.
-/
import SmsVerif.Model.Own

namespace SmsVerif.Own.Heap

theorem read_alloc_old (h : Heap) (b : Bytes) (l : Nat) (hl : l < h.mem.length) :
    (h.alloc b).1.read l = h.read l := by
  simp [Heap.alloc, Heap.read, List.getD_eq_getElem?_getD, List.getElem?_append_left hl]

theorem read_alloc_new (h : Heap) (b : Bytes) : (h.alloc b).1.read (h.alloc b).2 = b := by
  simp [Heap.alloc, Heap.read, List.getD_eq_getElem?_getD]

theorem size_alloc (h : Heap) (b : Bytes) : (h.alloc b).1.mem.length = h.mem.length + 1 := by
  simp [Heap.alloc]

theorem size_le_alloc (h : Heap) (b : Bytes) : h.mem.length ≤ (h.alloc b).1.mem.length :=
  size_alloc h b ▸ Nat.le_succ _

theorem alloc_loc (h : Heap) (b : Bytes) : (h.alloc b).2 = h.mem.length := rfl

theorem read_write_ne (h : Heap) (l l' : Nat) (b : Bytes) (hne : l ≠ l') : (h.write l' b).read l = h.read l := by
  simp [Heap.write, Heap.read, List.getD_eq_getElem?_getD, List.getElem?_set_ne (Ne.symm hne)]

theorem read_write_eq (h : Heap) (l : Nat) (b : Bytes) (hl : l < h.mem.length) : (h.write l b).read l = b := by
  simp [Heap.write, Heap.read, List.getD_eq_getElem?_getD, hl]

theorem size_write (h : Heap) (l : Nat) (b : Bytes) : (h.write l b).mem.length = h.mem.length := by
  simp [Heap.write]

structure Frame (W : List Nat) (h h' : Heap) : Prop where
  size : h.mem.length ≤ h'.mem.length
  read : ∀ l, l < h.mem.length → l ∉ W → h'.read l = h.read l

theorem Frame.refl (W : List Nat) (h : Heap) : Frame W h h := ⟨Nat.le_refl _, fun _ _ _ => rfl⟩

theorem Frame.alloc {W : List Nat} {h h' : Heap} (f : Frame W h h') (b : Bytes) : Frame W h (h'.alloc b).1 :=
  ⟨Nat.le_trans f.size (size_le_alloc ..),
   fun l hl hw => by rw [read_alloc_old _ _ _ (Nat.lt_of_lt_of_le hl f.size), f.read l hl hw]⟩

theorem Frame.write {W : List Nat} {h h' : Heap} (f : Frame W h h') {l : Nat} (hl : l < h.mem.length → l ∈ W)
    (b : Bytes) : Frame W h (h'.write l b) :=
  ⟨by rw [size_write]; exact f.size, fun l' hl' hw => by
    rw [read_write_ne, f.read l' hl' hw]
    rintro rfl
    exact hw (hl hl')⟩

end SmsVerif.Own.Heap
