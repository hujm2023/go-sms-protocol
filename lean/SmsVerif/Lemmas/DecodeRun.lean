/-
  What a decoder run does to its reader, on any input (C03, C11).  A statement that completes is one
  `RdStep` of its reader (`DecOp.run_rdStep`) with the profile `DecOp.over`, `DecOp.reads`, both read off
  the state it starts in; a list of statements that each complete with a profile fixed in advance is one
  step with the sums (`runDec_rdStep`, for C03's static bounds).  Then `IDecode` in terms of its statement
  run (`runDec_decBody`, `decodeInto_run`), started on a fresh PDU (`fresh_strs_nil`).
-/
import SmsVerif.Lemmas.OptParams

namespace SmsVerif

theorem readRep_step (n : Nat) : ∀ (cnt : Nat) (rd : Reader) (acc : List Bytes),
    RdStep rd (readRep rd n cnt acc).2 0 (n * cnt)
  | 0, rd, acc => RdStep.refl rd
  | c+1, rd, acc => by
    simp only [readRep]
    exact ((readCStringN_step rd n).trans (readRep_step n c _ _)).weaken (Nat.le_refl _) (by rw [Nat.mul_succ]; omega)

theorem readRep_consumes (n cnt : Nat) (rd : Reader) (acc : List Bytes) (h : (readRep rd n cnt acc).2.err = none) :
    (readRep rd n cnt acc).2.rest.length + n * cnt ≤ rd.rest.length :=
  (readRep_step n cnt rd acc).cons h

theorem readRep_shape (n : Nat) : ∀ (cnt : Nat) (rd : Reader) (acc : List Bytes),
    (∀ s ∈ acc, hasNul s = false ∧ s.length ≤ n) →
    (readRep rd n cnt acc).1.length = acc.length + cnt ∧
    ∀ s ∈ (readRep rd n cnt acc).1, hasNul s = false ∧ s.length ≤ n
  | 0, rd, acc, h => by simpa [readRep] using h
  | c+1, rd, acc, h => by
    simp only [readRep]
    have := readRep_shape n c (rd.readCStringN n).2 ((rd.readCStringN n).1 :: acc)
      (List.forall_mem_cons.2 ⟨readCStringN_shape rd n, h⟩)
    exact ⟨by rw [this.1, List.length_cons, Nat.add_assoc, Nat.add_comm 1], this.2⟩

/-- what a statement requests from the allocator beyond the octets it consumes, for the PDU decoded so far -/
def DecOp.over (r : Rec) : DecOp → Nat
  | .repMake _ c _ => c.eval r      -- `make([]string, count)`: one slot per declared entry
  | .tlvsRead _ => 1      -- a value buffer is `make(min(length, Remaining()+1))`: one octet beyond the input on a short read
  | _ => 0

/-- octets a statement must consume to complete without a reader error, in the state it starts from -/
def DecOp.reads (st : DecState) : DecOp → Nat
  | .num k _ => k
  | .cstr _ => st.rd.readCString.1.length + 1      -- the text it finds and the terminator (C03 weakens this to 1,
                                                   -- `decode_fits` reads it back from the decoded PDU)
  | .fixedTrim _ n => n
  | .fixedRaw _ n => n
  | .fixedRawHex _ n => n
  | .bytesN _ l => l.eval st.r
  | .repMake _ c n => n * c.eval st.r
  | .repAppend _ c n => n * c.eval st.r
  | _ => 0

theorem DecOp.run_rdStep {d : DecOp} {st st1 : DecState} (h : d.run st = .ok st1) :
    RdStep st.rd st1.rd (d.over st.r) (d.reads st) := by
  cases d with
  | guard n => cases h; exact .refl _
  | num k f => cases h; exact readNum_step ..
  | cstr f =>
    cases h
    have s := readCString_step st.rd
    exact ⟨s.sub, s.alloc, s.sticky, fun he => Nat.le_of_eq (readCString_consumes _ he), s.len⟩
  | fixedTrim f n => cases h; exact readCStringN_step ..
  | fixedRaw f n => cases h; exact readCStringNRaw_step ..
  | fixedRawHex f n => cases h; exact readCStringNRaw_step ..
  | bytesN f l => cases h; exact readNBytes_step ..
  | repMake f c n =>
    cases h
    have h0 : RdStep st.rd { st.rd with alloc := st.rd.alloc + c.eval st.r } (c.eval st.r) 0 :=
      ⟨fun _ h => h, by simp; omega, fun h => h, fun _ => by simp, by simp⟩
    simpa [DecOp.over, DecOp.reads] using h0.trans (readRep_step n (c.eval st.r) _ [])
  | repAppend f c n => cases h; exact readRep_step ..
  | tlvsRead f => cases h; exact readTlvs_step ..
  | optsParse f =>
    simp only [DecOp.run] at h
    split at h <;> cases h <;> exact .refl _
  | stopIfAbsent f =>
    simp only [DecOp.run] at h
    split at h <;> cases h; exact .refl _
  | unsupported pos => cases h

theorem runDec_guard (n : Nat) (ds : List DecOp) (st : DecState) :
    runDec (.guard n :: ds) st = runDec ds st := by simp [runDec, DecOp.run]

theorem runDec_decBody (ds : List DecOp) (st : DecState) : runDec ds st = runDec (decBody ds) st := by
  unfold decBody
  split
  · exact runDec_guard ..
  · rfl

theorem runDec_cons_ok {d : DecOp} {ds : List DecOp} {st st' : DecState} :
    runDec (d :: ds) st = .ok st' ↔ ∃ st1, d.run st = .ok st1 ∧ runDec ds st1 = .ok st' := by
  simp only [runDec]
  split
  · rename_i st1 h1; exact ⟨fun h => ⟨st1, h1, h⟩, fun ⟨_, h, h'⟩ => by cases h1.symm.trans h; exact h'⟩
  · rename_i e h1; exact ⟨nofun, fun ⟨_, h, _⟩ => by rw [h1] at h; cases h⟩

theorem runDec_rdStep {P : DecState → Prop} {o m : DecOp → Nat} : ∀ (ds : List DecOp),
    (∀ d ∈ ds, ∀ st, P st → ∃ st1, d.run st = .ok st1 ∧ P st1 ∧ RdStep st.rd st1.rd (o d) (m d)) →
    ∀ st, P st → ∃ st', runDec ds st = .ok st' ∧ P st' ∧ RdStep st.rd st'.rd (ds.map o).sum (ds.map m).sum
  | [], _, st, hp => ⟨st, rfl, hp, .refl _⟩
  | d :: ds, h, st, hp => by
    obtain ⟨st1, h1, hp1, hs1⟩ := h d (.head _) st hp
    obtain ⟨st2, h2, hp2, hs2⟩ := runDec_rdStep ds (fun d hd => h d (.tail _ hd)) st1 hp1
    exact ⟨st2, runDec_cons_ok.2 ⟨st1, h1, h2⟩, hp2, hs1.trans hs2⟩

/-- without an early-return statement the only way a statement list stops is a statement the
    translator does not know -/
theorem runDec_error (ds : List DecOp) (hns : ds.all (fun d => !d.isStop) = true) :
    ∀ (st : DecState) (o : DecOutcome), runDec ds st = .error o → ∃ pos, o = .unsupported pos := by
  induction ds with
  | nil => intro st o h; cases h
  | cons d ds ih =>
    intro st o h
    simp only [List.all_cons, Bool.and_eq_true, Bool.not_eq_true'] at hns
    simp only [runDec] at h
    split at h
    · exact ih hns.2 _ o h
    · rename_i e hd
      cases h
      cases d <;> simp only [DecOp.run, reduceCtorEq] at hd
      · split at hd <;> cases hd
      · simp [DecOp.isStop] at hns
      · exact ⟨_, (Except.error.inj hd).symm⟩

theorem fresh_get? (p : PduDesc) (g : String) :
    p.fresh.get? g = none ∨ ∃ t : FTy, p.fresh.get? g = some t.zero := by
  unfold PduDesc.fresh
  generalize p.fields = fs
  induction fs with
  | nil => exact .inl rfl
  | cons ft rest ih =>
    simp only [List.map_cons, Rec.get?]
    split
    · exact .inr ⟨ft.2, rfl⟩
    · exact ih

theorem fresh_strs_nil (p : PduDesc) (g : String) : p.fresh.strs g = [] := by
  unfold Rec.strs
  rcases fresh_get? p g with h | ⟨t, h⟩ <;> rw [h]
  cases t <;> rfl

/-- what `IDecode` returns when its statements run to the end in state `st`: it requested no more than the
    reader did; it reports an error, or it returns `st`'s PDU — then the guard let the input pass and,
    unless the decoder never looks at the reader's error, no error was recorded -/
theorem decodeInto_run {p : PduDesc} {r0 : Rec} {data : Bytes} {st : DecState}
    (h : runDec p.dec { r := r0, rd := ⟨data, none, 0⟩ } = .ok st) :
    (p.decodeInto r0 data).2 ≤ st.rd.alloc ∧
      ((p.decodeInto r0 data).1 = .err ∨ (p.decodeInto r0 data).1 = .ok st.r ∧ guardOf p.dec ≤ data.length ∧
        (p.ret ≠ .nilAlways → st.rd.err = none)) := by
  unfold PduDesc.decodeInto
  split
  · exact ⟨Nat.zero_le _, .inl rfl⟩
  · rename_i hg
    have hg := Nat.le_of_not_lt hg
    simp only [h]
    refine ⟨Nat.le_refl _, ?_⟩
    cases hp : p.ret with
    | nilAlways => exact .inr ⟨rfl, hg, fun h => absurd rfl h⟩
    | readerErr =>
      cases he : st.rd.err with
      | none => exact .inr ⟨rfl, hg, fun _ => rfl⟩
      | some e => exact .inl rfl
    | readerOrParse =>
      cases he : st.rd.err with
      | some e => exact .inl rfl
      | none =>
        cases st.parseErr with
        | false => exact .inr ⟨rfl, hg, fun _ => rfl⟩
        | true => exact .inl rfl

theorem decode_ok_run {p : PduDesc} {data : Bytes} {r : Rec} (hns : p.dec.all (fun d => !d.isStop) = true)
    (h : p.decode data = .ok r) :
    ∃ st, runDec p.dec { r := p.fresh, rd := ⟨data, none, 0⟩ } = .ok st ∧ st.r = r ∧
      (p.ret ≠ .nilAlways → st.rd.err = none) := by
  unfold PduDesc.decode at h
  cases hrun : runDec p.dec { r := p.fresh, rd := ⟨data, none, 0⟩ } with
  | ok st =>
    rcases (decodeInto_run hrun).2 with h' | ⟨h', _, he⟩ <;> rw [h'] at h
    · cases h
    · exact ⟨st, rfl, DecOutcome.ok.inj h, he⟩
  | error o =>
    unfold PduDesc.decodeInto at h
    split at h
    · cases h
    · rw [hrun] at h
      obtain ⟨pos, rfl⟩ := runDec_error _ hns _ _ hrun
      cases h

end SmsVerif
