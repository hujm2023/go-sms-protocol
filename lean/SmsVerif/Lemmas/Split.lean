/-
  Cut points, slices and headers (C06, C07): the parts cover the data exactly once, in order, each non-empty
  and at most `per` units long.
-/
import SmsVerif.Model.Split

namespace SmsVerif.Split

/-- `cuts` is a valid partition of `[b, n]`: strictly increasing from `b`, steps of at most `per`, ending at `n` -/
def Partition (per n : Nat) : Nat → List Nat → Prop
  | b, [] => b = n
  | b, e :: rest => b < e ∧ e ≤ b + per ∧ e ≤ n ∧ Partition per n e rest

theorem cutPoints_partition (bnd : Boundary) (d : List Nat) (per : Nat) (hper : 0 < per)
    (fuel b : Nat) (hb : b ≤ d.length) (hfuel : d.length - b < fuel) :
    Partition per d.length b (cutPoints bnd d per fuel b) := by
  fun_induction cutPoints bnd d per fuel b with
  | case1 => omega
  | case2 => simp only [Partition]; omega
  | case3 _ b h1 h2 => exact ⟨Nat.lt_of_not_ge h1, h2, Nat.le_refl _, rfl⟩
  | case4 _ b h1 h2 e e' ih =>
    have he : b < e' ∧ e' ≤ b + per := by simp only [e']; split <;> omega
    exact ⟨he.1, he.2, by omega, ih (by omega) (by omega)⟩

theorem cuts_partition (bnd : Boundary) (d : List Nat) (per : Nat) (hper : 0 < per) :
    Partition per d.length 0 (cutPoints bnd d per (d.length + 1) 0) :=
  cutPoints_partition bnd d per hper _ 0 (Nat.zero_le _) (by omega)

theorem length_slices (d : List Nat) (b : Nat) (cuts : List Nat) : (slices d b cuts).length = cuts.length := by
  induction cuts generalizing b with
  | nil => rfl
  | cons e rest ih => simp [slices, ih]

theorem slices_length (d : List Nat) (per : Nat) (b : Nat) (cuts : List Nat)
    (h : Partition per d.length b cuts) : (slices d b cuts).length = cuts.length :=
  have _ := h  -- holds of any list of cuts
  length_slices d b cuts

theorem slices_flatten (d : List Nat) (per : Nat) (b : Nat) (cuts : List Nat)
    (h : Partition per d.length b cuts) : (slices d b cuts).flatten = d.drop b := by
  induction cuts generalizing b with
  | nil => simp only [Partition] at h; subst h; simp [slices]
  | cons e rest ih =>
    obtain ⟨h1, _, h3, h4⟩ := h
    have : d.drop e = (d.drop b).drop (e - b) := by
      rw [List.drop_drop]; congr 1; omega
    rw [slices, List.flatten_cons, ih e h4, this, List.take_append_drop]

theorem slices_sizes (d : List Nat) (per : Nat) (b : Nat) (cuts : List Nat)
    (h : Partition per d.length b cuts) : ∀ s ∈ slices d b cuts, 0 < s.length ∧ s.length ≤ per := by
  induction cuts generalizing b with
  | nil => intro s hs; simp [slices] at hs
  | cons e rest ih =>
    obtain ⟨h1, h2, h3, h4⟩ := h
    intro s hs
    simp only [slices, List.mem_cons] at hs
    rcases hs with rfl | hs
    · simp only [List.length_take, List.length_drop]; omega
    · exact ih e h4 s hs

theorem withHeaders_eq (ref total i : Nat) (ps : List (List Nat)) :
    withHeaders ref total i ps = ps.mapIdx fun k p => header ref total (i + k + 1) ++ p := by
  induction ps generalizing i with
  | nil => rfl
  | cons p rest ih => simp [withHeaders, ih, List.mapIdx_cons, Nat.add_assoc, Nat.add_comm 1]

theorem withHeaders_length (ref total i : Nat) (ps : List (List Nat)) :
    (withHeaders ref total i ps).length = ps.length := by
  simp [withHeaders_eq]

theorem withHeaders_get (ref total i : Nat) (ps : List (List Nat)) (k : Nat) (hk : k < ps.length) :
    (withHeaders ref total i ps)[k]? = some (header ref total (i + k + 1) ++ ps[k]) := by
  simp [withHeaders_eq, hk]

theorem mem_withHeaders {ref total i : Nat} {ps : List (List Nat)} {p : List Nat}
    (h : p ∈ withHeaders ref total i ps) : ∃ seq, ∃ s ∈ ps, p = header ref total seq ++ s := by
  rw [withHeaders_eq, List.mem_mapIdx] at h
  obtain ⟨k, hk, rfl⟩ := h
  exact ⟨_, _, List.getElem_mem hk, rfl⟩

theorem withHeaders_strip (ref total i : Nat) (ps : List (List Nat)) :
    (withHeaders ref total i ps).map (List.drop 6) = ps := by
  refine List.ext_getElem? fun k => ?_
  cases h : ps[k]? <;> simp [withHeaders_eq, header, h]

theorem splitUnits_ok (bnd : Boundary) (d : List Nat) (per ref : Nat) (enc : List Nat → List Nat)
    (parts : List (List Nat)) (h : splitUnits bnd d per ref enc = .ok parts) :
    (cutPoints bnd d per (d.length + 1) 0).length ≤ 255 ∧
    parts = withHeaders ref (cutPoints bnd d per (d.length + 1) 0).length 0
      ((slices d 0 (cutPoints bnd d per (d.length + 1) 0)).map enc) := by
  unfold splitUnits at h
  dsimp only at h
  split at h
  · simp at h
  · simp only [Except.ok.injEq] at h
    exact ⟨by omega, h.symm⟩

theorem gbCharLen_le (d : List Nat) (i : Nat) : 1 ≤ gbCharLen d i ∧ gbCharLen d i ≤ 4 := by
  unfold gbCharLen; dsimp only; split
  · omega
  · split <;> omega

end SmsVerif.Split
