/-
  Character boundaries of a segmented unit string (C14).  `IsBoundary chars p` says `chars = pre ++ post`
  with `p` the length of `pre.flatten` (`isBoundary_iff`); everything else is read off that decomposition.  With a
  sound boundary rule every cut is a boundary, and then the slices are whole characters.
-/
import SmsVerif.Lemmas.Split

namespace SmsVerif.Split

/-- offsets at which a character of the segmentation `chars` starts (or the text ends) -/
def IsBoundary (chars : List (List Nat)) (pos : Nat) : Prop :=
  ∃ k, k ≤ chars.length ∧ pos = (chars.take k).flatten.length

/-- a boundary rule is sound for a segmentation when, starting from a character boundary, the cut it
    returns is again a character boundary (whenever it is usable at all) -/
def BoundarySound (bnd : Boundary) (chars : List (List Nat)) (per : Nat) : Prop :=
  ∀ b, IsBoundary chars b → b + per < chars.flatten.length →
    b < bnd chars.flatten b (b + per) → bnd chars.flatten b (b + per) ≤ b + per →
    IsBoundary chars (bnd chars.flatten b (b + per))

theorem isBoundary_iff {chars : List (List Nat)} {p : Nat} :
    IsBoundary chars p ↔ ∃ pre post, chars = pre ++ post ∧ p = pre.flatten.length := by
  constructor
  · rintro ⟨k, _, rfl⟩
    exact ⟨chars.take k, chars.drop k, (List.take_append_drop k chars).symm, rfl⟩
  · rintro ⟨pre, post, rfl, rfl⟩
    exact ⟨pre.length, by simp, by simp⟩

theorem isBoundary_before (pre post : List (List Nat)) : IsBoundary (pre ++ post) pre.flatten.length :=
  isBoundary_iff.2 ⟨pre, post, rfl, rfl⟩

theorem isBoundary_after (pre : List (List Nat)) (c : List Nat) (post : List (List Nat)) :
    IsBoundary (pre ++ c :: post) (pre.flatten.length + c.length) :=
  isBoundary_iff.2 ⟨pre ++ [c], post, by simp, by simp⟩

theorem isBoundary_zero (chars : List (List Nat)) : IsBoundary chars 0 := isBoundary_before [] chars

theorem isBoundary_length (chars : List (List Nat)) : IsBoundary chars chars.flatten.length := by
  simpa using isBoundary_before chars []

theorem not_isBoundary_inside (pre : List (List Nat)) (c : List Nat) (post : List (List Nat)) (q : Nat)
    (h1 : pre.flatten.length < q) (h2 : q < pre.flatten.length + c.length) : ¬ IsBoundary (pre ++ c :: post) q := by
  intro hb
  obtain ⟨pre', post', he, rfl⟩ := isBoundary_iff.1 hb
  -- one of `pre`, `pre'` extends the other, so `pre'` ends where `pre` does, after `c`, or before `pre`
  rcases List.append_eq_append_iff.1 he with ⟨a, rfl, ha⟩ | ⟨a, rfl, ha⟩
  · cases a with
    | nil => simp at h1
    | cons x a =>
      obtain ⟨rfl, _⟩ := List.cons_eq_cons.1 ha
      simp only [List.flatten_append, List.flatten_cons, List.length_append] at h2
      omega
  · simp only [List.flatten_append, List.length_append] at h1
    omega

theorem exists_char_at (chars : List (List Nat)) (q : Nat) (hq : q < chars.flatten.length) :
    ∃ pre c post i, chars = pre ++ c :: post ∧ i < c.length ∧ q = pre.flatten.length + i := by
  induction chars generalizing q with
  | nil => simp at hq
  | cons c rest ih =>
    rw [List.flatten_cons, List.length_append] at hq
    rcases Nat.lt_or_ge q c.length with h | h
    · exact ⟨[], c, rest, q, rfl, h, by simp⟩
    · obtain ⟨pre, c', post, i, rfl, hi, hq'⟩ := ih (q - c.length) (by omega)
      exact ⟨c :: pre, c', post, i, rfl, hi, by rw [List.flatten_cons, List.length_append]; omega⟩

theorem exists_char_from (chars : List (List Nat)) (p : Nat) (hb : IsBoundary chars p) (hlt : p < chars.flatten.length) :
    ∃ pre c post, chars = pre ++ c :: post ∧ p = pre.flatten.length := by
  obtain ⟨pre, post, rfl, rfl⟩ := isBoundary_iff.1 hb
  cases post with
  | nil => simp at hlt
  | cons c post => exact ⟨pre, c, post, rfl, rfl⟩

theorem getD_append_shift (c l : List Nat) (i : Nat) : (c ++ l).getD (c.length + i) 0 = l.getD i 0 := by
  simp [List.getD_eq_getElem?_getD, List.getElem?_append_right]

theorem isBoundary_mod (w : Nat) (chars : List (List Nat)) (hw : ∀ c ∈ chars, c.length % w = 0) (p : Nat)
    (hb : IsBoundary chars p) : p % w = 0 := by
  obtain ⟨pre, post, rfl, rfl⟩ := isBoundary_iff.1 hb
  have hpre : ∀ c ∈ pre, c.length % w = 0 := fun c hc => hw c (List.mem_append_left _ hc)
  clear hw hb
  induction pre with
  | nil => simp
  | cons c pre ih =>
    rw [List.flatten_cons, List.length_append, Nat.add_mod, hpre c (by simp), ih (fun x hx => hpre x (by simp [hx]))]
    simp

/-- with a rule that is sound and always usable, every cut is a character boundary -/
theorem cuts_on_boundaries (bnd : Boundary) (chars : List (List Nat)) (per : Nat)
    (hs : BoundarySound bnd chars per)
    (hprog : ∀ b, IsBoundary chars b → b + per < chars.flatten.length →
      b < bnd chars.flatten b (b + per) ∧ bnd chars.flatten b (b + per) ≤ b + per)
    (fuel b : Nat) (hb : IsBoundary chars b) :
    ∀ e ∈ cutPoints bnd chars.flatten per fuel b, IsBoundary chars e := by
  fun_induction cutPoints bnd chars.flatten per fuel b with
  | case1 | case2 => simp
  | case3 =>
    intro e he
    rw [List.mem_singleton.1 he]
    exact isBoundary_length chars
  | case4 _ b _ h2 e e' ih =>
    have hlt : b + per < chars.flatten.length := by omega
    have hprog := hprog b hb hlt
    -- the rule is usable, so its proposal is the cut
    have he : e' = e := if_pos hprog
    rw [he] at ih ⊢
    have hcut : IsBoundary chars e := hs b hb hlt hprog.1 hprog.2
    intro x hx
    rcases List.mem_cons.1 hx with rfl | hx
    · exact hcut
    · exact ih hcut x hx

/-- a text coded item by item (`f`, never empty; `id` for a bare segmentation) and cut at character
    boundaries: the slices are the codes of consecutive pieces of the text -/
theorem slices_are_pieces {α} (f : α → List Nat) (per : Nat) (cuts : List Nat) (pre rest : List α)
    (hne : ∀ s ∈ rest, f s ≠ [])
    (hp : Partition per ((pre ++ rest).map f).flatten.length (pre.map f).flatten.length cuts)
    (hb : ∀ e ∈ cuts, IsBoundary ((pre ++ rest).map f) e) :
    ∃ pieces : List (List α), pieces.flatten = rest ∧
      slices ((pre ++ rest).map f).flatten (pre.map f).flatten.length cuts = pieces.map fun t => (t.map f).flatten := by
  induction cuts generalizing pre rest with
  | nil =>
    refine ⟨[], ?_, rfl⟩
    -- nothing is left, as no code is empty
    simp only [Partition, List.map_append, List.flatten_append, List.length_append] at hp
    cases rest with
    | nil => rfl
    | cons s rest =>
      rw [List.map_cons, List.flatten_cons, List.length_append] at hp
      exact absurd (List.length_eq_zero_iff.1 (by omega)) (hne s (by simp))
  | cons e cuts ih =>
    obtain ⟨h1, _, _, h4⟩ := hp
    obtain ⟨pre', rest', he, rfl⟩ := isBoundary_iff.1 (hb e (by simp))
    obtain ⟨l1, l2, hl, rfl, rfl⟩ := List.map_eq_append_iff.1 he
    -- the cut lies further on, so its prefix extends `pre` by a piece `a`
    rcases List.append_eq_append_iff.1 hl with ⟨a, rfl, rfl⟩ | ⟨a, rfl, rfl⟩
    · obtain ⟨pieces, hpieces, hsl⟩ := ih (pre ++ a) l2 (fun s hs => hne s (by simp [hs]))
        (by simpa using h4) (fun x hx => by simpa using hb x (by simp [hx]))
      refine ⟨a :: pieces, by rw [List.flatten_cons, hpieces], ?_⟩
      rw [slices, List.map_cons, ← hsl, List.append_assoc]
      congr 1
      simp only [List.map_append, List.flatten_append, List.length_append, List.drop_left, Nat.add_sub_cancel_left,
        List.take_left]
    · simp only [List.map_append, List.flatten_append, List.length_append] at h1
      omega

end SmsVerif.Split
