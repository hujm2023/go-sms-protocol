/-
  `pairOne` / `pairOps` read backwards: an item determines the encoder statement and the decoder
  statement it was aligned from, so an aligned pair of statement lists is the item list projected
  twice.  Proofs about aligned statements are then case analyses on the item and list inductions
  on the items, never on the fifteen equations of `pairOne`.
-/
import SmsVerif.Model.Check

namespace SmsVerif

/-- the decoder statement an item was aligned from (a normalisation has none) -/
def Item.decOp? : Item → Option DecOp
  | .num k f _ => some (.num k f)
  | .cstr f => some (.cstr f)
  | .fixedTrim f n => some (.fixedTrim f n)
  | .fixedRaw f n => some (.fixedRaw f n)
  | .fixedHexOut f n => some (.fixedRawHex f n)
  | .hexBoth f n => some (.fixedRawHex f n)
  | .body f l _ => some (.bytesN f (.fld l))
  | .rep f c n _ app => some (if app then .repAppend f (.fld c) n else .repMake f (.fld c) n)
  | .asg _ _ => none
  | .tail f parse => some (if parse then .optsParse f else .tlvsRead f)

/-- the encoder statement an item was aligned from (`pairOps` builds a normalisation item only in
    the first two `asg` forms; the third has the same effect) -/
def Item.encOp : Item → EncOp
  | .num k f conv => .num k (if conv then .conv k (.fld f) else .fld f)
  | .cstr f => .cstr f
  | .fixedTrim f n => .fixed f n
  | .fixedRaw f n => .fixed f n
  | .fixedHexOut f n => .fixed f n
  | .hexBoth f n => .hexFixed f n
  | .body f l dyn => if dyn then .fixedDyn f (.fld l) else .raw f
  | .rep f c n counted _ => if counted then .repCount f (.fld c) n else .repRange f n
  | .asg none [(f, e)] => .assign f e
  | .asg (some c) as => .assignIf c as
  | .asg none as => .assignIf (.eq (.lit 0) (.lit 0)) as
  | .tail f _ => .tlvs f

/-- `pairOne` is the graph of `encOp` and `decOp?` on the items that are not normalisations -/
theorem pairOne_some {e : EncOp} {d : DecOp} {it : Item} (h : pairOne e d = some it) :
    e = it.encOp ∧ it.decOp? = some d := by
  unfold pairOne at h
  split at h <;> (try split at h) <;> cases h
  -- an equation of `pairOne` asks only that arguments of the two statements be equal: once they are
  -- substituted, the statements are the item's projections as they stand
  all_goals
    rename_i hc
    revert hc
    try simp only [and_imp]
    intros
    subst_vars
    exact ⟨rfl, rfl⟩

theorem pairOps_some {es : List EncOp} {ds : List DecOp} {its : List Item} (h : pairOps es ds = some its) :
    es = its.map Item.encOp ∧ ds = its.filterMap Item.decOp? := by
  fun_induction pairOps es ds generalizing its with
  | case1 => simp at h; subst h; exact ⟨rfl, rfl⟩
  | case2 f e es ds ih =>
    obtain ⟨its', h', rfl⟩ := Option.map_eq_some_iff.1 h
    obtain ⟨rfl, rfl⟩ := ih h'
    exact ⟨rfl, (List.filterMap_cons_none rfl).symm⟩
  | case3 c as es ds ih =>
    obtain ⟨its', h', rfl⟩ := Option.map_eq_some_iff.1 h
    obtain ⟨rfl, rfl⟩ := ih h'
    exact ⟨rfl, (List.filterMap_cons_none rfl).symm⟩
  | case4 e es d ds _ _ it hpo ih =>
    obtain ⟨its', h', rfl⟩ := Option.map_eq_some_iff.1 h
    obtain ⟨rfl, hd⟩ := pairOne_some hpo
    obtain ⟨rfl, rfl⟩ := ih h'
    exact ⟨rfl, (List.filterMap_cons_some hd).symm⟩
  | case5 => simp at h
  | case6 => simp at h

theorem PduDesc.items_some {p : PduDesc} {lf : String} {its : List Item} (h : p.items = some (lf, its)) :
    ∃ ds, pairOps p.enc ds = some its ∧
      (decBody p.dec).filter (fun d => !d.isStop) = if p.fin = .withLength then .num 4 lf :: ds else ds := by
  unfold PduDesc.items at h
  split at h
  · rename_i lf' ds hfin hbody
    simp only [Option.map_eq_some_iff, Prod.mk.injEq] at h
    obtain ⟨_, hp, rfl, rfl⟩ := h
    exact ⟨ds, hp, by rw [hbody, if_pos hfin]⟩
  · rename_i ds hfin
    simp only [Option.map_eq_some_iff, Prod.mk.injEq] at h
    obtain ⟨_, hp, _, rfl⟩ := h
    exact ⟨_, hp, by simp [hfin]⟩
  · cases h

theorem decBody_filter_noStop {ds : List DecOp} (hns : ds.all (fun d => !d.isStop) = true) :
    (decBody ds).filter (fun d => !d.isStop) = decBody ds := by
  refine List.filter_eq_self.2 fun d hd => List.all_eq_true.1 hns d ?_
  unfold decBody at hd
  split at hd
  · exact List.mem_cons_of_mem _ hd
  · exact hd

end SmsVerif
