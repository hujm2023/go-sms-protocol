/-
  GSM 7-bit alphabet (C08, C14; `Gsm7.encode` / `decode` over arbitrary tables): the equations of `decode`,
  and the alphabet as a per-scalar coding (`Model/Text.lean`), so that what holds of every such coding
  (`Lemmas/Text.lean`) holds of `encode` / `decode`.
-/
import SmsVerif.Model.Text

namespace SmsVerif.Gsm7

theorem lookup_some_mem {tbl : List (Nat × Nat)} {k v : Nat} (h : lookup tbl k = some v) : (k, v) ∈ tbl := by
  induction tbl with
  | nil => simp [lookup] at h
  | cons kv rest ih =>
    obtain ⟨a, b⟩ := kv
    simp only [lookup] at h
    split at h
    · rename_i hk; simp at h; subst hk; subst h; simp
    · simp [ih h]

theorem decode_cons_ne (t : Tables) (b : Nat) (bs : List Nat) (h : b ≠ esc) :
    decode t (b :: bs) = match lookup t.rev b with
      | some r => (decode t bs).map (r :: ·)
      | none => none := by
  rw [decode.eq_def]; simp only [h, if_false]; cases lookup t.rev b <;> rfl

theorem decode_esc (t : Tables) (e : Nat) (rest : List Nat) :
    decode t (esc :: e :: rest) = match lookup t.revEsc e with
      | some r => (decode t rest).map (r :: ·)
      | none => none := by
  rw [decode.eq_def]; simp only [if_true]; cases lookup t.revEsc e <;> rfl

def coding (t : Tables) : Text.Coding where
  code c :=
    match lookup t.fwd c with
    | some v => some [v]
    | none => (lookup t.fwdEsc c).map fun v => [esc, v]
  step
    | [] => none
    | b :: bs =>
      if b = esc then
        match bs with
        | [] => none
        | e :: rest => (lookup t.revEsc e).map (·, rest)
      else (lookup t.rev b).map (·, bs)

theorem encode_eq (t : Tables) (text : List Nat) : encode t text = Text.encodeAll (coding t) text := by
  induction text with
  | nil => rfl
  | cons c cs ih =>
    simp only [encode, Text.encodeAll, coding, ih]
    cases lookup t.fwd c <;> cases lookup t.fwdEsc c <;> rfl

theorem decode_step (t : Tables) {s rest : List Nat} {x : Nat} (h : (coding t).step s = some (x, rest)) :
    decode t s = (decode t rest).map (x :: ·) := by
  fun_cases decode t s <;> simp_all [coding]

theorem decode_of_decodeAll (t : Tables) (fuel : Nat) (s r : List Nat)
    (h : Text.decodeAll (coding t) fuel s = some r) : decode t s = some r := by
  fun_induction Text.decodeAll (coding t) fuel s generalizing r with
  | case1 => cases h
  | case2 => exact h
  | case3 => cases h
  | case4 f u _ x rest hs ih =>
    obtain ⟨r', hr', rfl⟩ := Option.map_eq_some_iff.1 h
    rw [decode_step t hs, ih _ hr']; rfl

end SmsVerif.Gsm7
