/-
  Soundness of the layout checkers, encoder side (C01, C02): if the statement lists align into items
  and every item fits, the encoder's statements succeed, leave the receiver as `norm items r`, and
  append exactly the concatenation of the items' octets (`runEnc_items`; `encode_items` in
  LayoutRoundTrip adds the length prefix).  A normalisation only stores integers into its targets
  (`norm_ind`), so an item reads the same before and after the later ones (`norm_agree`).
-/
import SmsVerif.Lemmas.PairCases
import SmsVerif.Lemmas.Packet

namespace SmsVerif

theorem Rec.get?_set (r : Rec) (f : String) (v : Val) (g : String) :
    (r.set f v).get? g = if g = f then some v else r.get? g := by
  induction r with
  | nil => simp [Rec.set, Rec.get?, eq_comm]
  | cons kv rest ih =>
    simp only [Rec.set]
    split <;> simp only [Rec.get?, ih] <;> split <;> simp_all [eq_comm]

theorem Rec.get?_set_ne (r : Rec) (f : String) (v : Val) (g : String) (h : g ≠ f) :
    (r.set f v).get? g = r.get? g := by simp [Rec.get?_set, h]

theorem Rec.get?_set_self (r : Rec) (f : String) (v : Val) : (r.set f v).get? f = some v := by
  simp [Rec.get?_set]

def AgreeOn (S : List String) (a b : Rec) : Prop := ∀ f ∈ S, a.get? f = b.get? f

theorem num_congr {a b : Rec} {f : String} (h : a.get? f = b.get? f) : a.num f = b.num f := by
  simp [Rec.num, h]
theorem str_congr {a b : Rec} {f : String} (h : a.get? f = b.get? f) : a.str f = b.str f := by
  simp [Rec.str, h]
theorem strs_congr {a b : Rec} {f : String} (h : a.get? f = b.get? f) : a.strs f = b.strs f := by
  simp [Rec.strs, h]
theorem tlvs_congr {a b : Rec} {f : String} (h : a.get? f = b.get? f) : a.tlvs f = b.tlvs f := by
  simp [Rec.tlvs, h]

/-- All `norm` ever does is store, into a normalisation target, the integer an assigned expression
    evaluates to: what every such store preserves, `norm` preserves. -/
theorem norm_ind {P : Rec → Prop} (its : List Item)
    (hset : ∀ c as, Item.asg c as ∈ its → ∀ fe ∈ as, ∀ ρ σ : Rec, P σ → P (σ.set fe.1 (.num (fe.2.eval ρ))))
    (r : Rec) (h : P r) : P (norm its r) := by
  induction its generalizing r with
  | nil => exact h
  | cons it rest ih =>
    have ih := ih fun c as hm => hset c as (List.mem_cons_of_mem _ hm)
    cases it with
    | asg c as =>
      -- the right-hand sides are all evaluated in `r`, then stored one by one
      have stores : ∀ (l : List (String × Expr)), (∀ fe ∈ l, fe ∈ as) → ∀ σ, P σ →
          P ((l.map fun (fe : String × Expr) => (fe.1, fe.2.eval r)).foldl
            (fun ρ (fv : String × Nat) => ρ.set fv.1 (.num fv.2)) σ) := fun l => by
        induction l with
        | nil => exact fun _ _ h => h
        | cons fe l ihl =>
          exact fun hl σ hσ => ihl (fun x hx => hl x (List.mem_cons_of_mem _ hx)) _
            (hset c as List.mem_cons_self fe (hl fe List.mem_cons_self) r σ hσ)
      refine ih _ ?_
      unfold applyAsg
      cases c with
      | none => exact stores as (fun _ h => h) r h
      | some c =>
        simp only
        split
        · exact stores as (fun _ h => h) r h
        · exact h
    | _ => exact ih r h

theorem norm_get?_other (its : List Item) (ρ : Rec) (g : String) (hg : g ∉ its.flatMap Item.targets) :
    (norm its ρ).get? g = ρ.get? g :=
  norm_ind (P := fun σ => σ.get? g = ρ.get? g) its (fun c as hm fe hfe _ σ hσ => by
    have hne : g ≠ fe.1 := fun e => hg (List.mem_flatMap.2 ⟨_, hm, List.mem_map.2 ⟨fe, hfe, e.symm⟩⟩)
    rw [Rec.get?_set_ne _ _ _ _ hne, hσ]) ρ rfl

theorem disjoint_spec {a b : List String} (h : disjoint a b = true) {x : String} (hx : x ∈ b) : x ∉ a := by
  intro ha
  simp only [disjoint, List.all_eq_true] at h
  have := h x ha
  simp [hx] at this

theorem norm_cons (it : Item) (its : List Item) (r : Rec) : norm (it :: its) r = norm its (norm [it] r) := by
  cases it <;> rfl

theorem norm_agree (M : List String) (rest : List Item) (r : Rec)
    (h : rest.all (fun a => disjoint a.targets M) = true) : AgreeOn M (norm rest r) r :=
  fun f hf => norm_get?_other rest r f fun hmem =>
    have ⟨a, ha, hfa⟩ := List.mem_flatMap.1 hmem
    disjoint_spec (List.all_eq_true.1 h a ha) hf hfa

theorem Item.bytes_congr (it : Item) {a b : Rec} (h : AgreeOn it.mentions a b) : it.bytes a = it.bytes b := by
  cases it <;> simp only [Item.bytes, Item.mentions] at * <;>
    first
    | rfl
    | (rw [num_congr (h _ (by simp))])
    | (rw [str_congr (h _ (by simp))])
    | (rw [strs_congr (h _ (by simp))])
    | (rw [tlvs_congr (h _ (by simp))])

theorem Item.fits_congr (it : Item) {a b : Rec} (h : AgreeOn it.mentions a b) (hb : it.Fits b) : it.Fits a := by
  cases it <;> simp only [Item.Fits, Item.mentions] at * <;>
    first
    | trivial
    | (rw [h _ (by simp)]; exact hb)
    | (rw [h _ (List.mem_cons_self), h _ (by simp)]; exact hb)

theorem writeRep_ok (w : Writer) (hw : w.err = none) (n : Nat) (l : List Bytes)
    (h : ∀ s ∈ l, s.length ≤ n) : writeRep w n l = w.app (repBytes n l) := by
  induction l generalizing w with
  | nil => simp [writeRep, repBytes, Writer.app_nil]
  | cons x xs ih =>
    rw [writeRep, Writer.writeFixed_ok hw (h x (by simp)), ih (w.app _) hw fun s hs => h s (by simp [hs]),
      Writer.app_app, repBytes]

theorem hexNibble_hexChar : ∀ x < 16, hexNibble? (hexChar x) = some x := by decide

theorem hexDecode_hexEncode (b : Bytes) (h : ∀ x ∈ b, x < 256) : hexDecodeLenient (hexEncode b) = b := by
  induction b with
  | nil => simp [hexEncode, hexDecodeLenient]
  | cons x xs ih =>
    have hx : x < 256 := h x (by simp)
    have ih' := ih (fun y hy => h y (by simp [hy]))
    simp only [hexEncode, List.flatMap_cons, List.cons_append, List.nil_append] at ih' ⊢
    simp only [hexDecodeLenient, hexNibble_hexChar (x / 16 % 16) (Nat.mod_lt _ (by decide)),
      hexNibble_hexChar (x % 16) (Nat.mod_lt _ (by decide))]
    rw [ih']
    congr 1
    omega

theorem hexValid_hexEncode (b : Bytes) : hexValid (hexEncode b) = true := by
  have hn : ∀ x, x < 16 → (hexNibble? (hexChar x)).isSome = true := fun x h => by
    rw [hexNibble_hexChar x h]; rfl
  induction b with
  | nil => rfl
  | cons x xs ih =>
    simp only [hexValid, hexEncode, List.flatMap_cons, Bool.and_eq_true, beq_iff_eq, List.all_eq_true] at ih ⊢
    obtain ⟨h1, h2⟩ := ih
    refine ⟨by simp only [List.length_append, List.length_cons, List.length_nil]; omega, ?_⟩
    intro c hc
    simp only [List.mem_append, List.mem_cons, List.not_mem_nil, or_false] at hc
    rcases hc with (rfl | rfl) | hc
    · exact hn _ (Nat.mod_lt _ (by decide))
    · exact hn _ (Nat.mod_lt _ (by decide))
    · exact h2 c hc

/-- The encoder statement of an item, on a healthy writer: it normalises the receiver (a
    normalisation item) or appends the item's octets (any other item, if the value fits). -/
theorem Item.enc_run (it : Item) (r : Rec) (hf : it.Fits (norm [it] r)) (w : Writer) (hw : w.err = none) :
    it.encOp.run ⟨r, w⟩ = .ok ⟨norm [it] r, w.app (it.bytes (norm [it] r))⟩ := by
  cases it <;> simp only [norm] at hf ⊢
  case num k f conv =>
    obtain ⟨n, hn, hlt⟩ := hf
    cases conv <;>
      simp [Item.encOp, EncOp.run, Item.bytes, Expr.eval, Writer.writeNum_ok hw, Rec.num, hn, Nat.mod_eq_of_lt hlt]
  case cstr f => simp [Item.encOp, EncOp.run, Item.bytes, Writer.writeCString_ok hw]
  case fixedTrim f n =>
    obtain ⟨s, hs, _, hl⟩ := hf
    simp [Item.encOp, EncOp.run, Item.bytes, Rec.str, hs, Writer.writeFixed_ok hw hl]
  case fixedRaw f n | fixedHexOut f n =>
    obtain ⟨s, hs, hl⟩ := hf
    simp [Item.encOp, EncOp.run, Item.bytes, Rec.str, hs, Writer.writeFixed_ok hw (Nat.le_of_eq hl)]
  case hexBoth f n =>
    obtain ⟨b, hs, hl, hb⟩ := hf
    simp [Item.encOp, EncOp.run, Item.bytes, Rec.str, hs, hexValid_hexEncode, hexDecode_hexEncode b hb,
      Writer.writeFixed_ok hw (Nat.le_of_eq hl)]
  case body f l dyn =>
    obtain ⟨s, hs, hl⟩ := hf
    cases dyn <;>
      simp [Item.encOp, EncOp.run, Item.bytes, Expr.eval, Rec.str, Rec.num, hs, hl, Writer.writeBytes_ok hw,
        Writer.writeFixed_ok hw (Nat.le_refl s.length), zeros]
  case rep f c n counted app =>
    obtain ⟨l, hs, hc, hall⟩ := hf
    have := writeRep_ok w hw n l fun s hs => (hall s hs).2
    cases counted <;> simp [Item.encOp, EncOp.run, Item.bytes, Expr.eval, Rec.strs, Rec.num, hs, hc, this]
  case asg c as =>
    simp only [Item.bytes, Writer.app_nil]
    obtain _ | c := c
    · match as with
      | [] | [_] | _ :: _ :: _ => rfl
    · simp only [Item.encOp, EncOp.run, applyAsg]
      split <;> rfl
  case tail f parse => simp [Item.encOp, EncOp.run, Item.bytes, Writer.writeBytes_ok hw]

def itemsBytes (r : Rec) (its : List Item) : Bytes := (its.map (·.bytes r)).flatten

theorem itemsBytes_cons (r : Rec) (it : Item) (its : List Item) :
    itemsBytes r (it :: its) = it.bytes r ++ itemsBytes r its := by simp [itemsBytes]

/-- Aligned statement lists, applied to a receiver whose normal form fits, succeed, leave the normal
    form as the receiver, and append exactly the items' octets. -/
theorem runEnc_items (es : List EncOp) (ds : List DecOp) (its : List Item)
    (hp : pairOps es ds = some its) (hok : asgOK its = true) (ρ : Rec)
    (hf : ∀ it ∈ its, it.Fits (norm its ρ)) (w : Writer) (hw : w.err = none) :
    runEnc es ⟨ρ, w⟩ = .ok ⟨norm its ρ, w.app (itemsBytes (norm its ρ) its)⟩ := by
  obtain rfl := (pairOps_some hp).1
  clear hp
  induction its generalizing ρ w with
  | nil => simp [runEnc, norm, itemsBytes, Writer.app_nil]
  | cons it its ih =>
    simp only [asgOK, Bool.and_eq_true] at hok
    rw [norm_cons] at hf ⊢
    -- what `it` reads is as the later normalisations leave it
    have hagree : AgreeOn it.mentions (norm its (norm [it] ρ)) (norm [it] ρ) := norm_agree _ _ _ hok.1
    have hfit : it.Fits (norm [it] ρ) := it.fits_congr (fun f h => (hagree f h).symm) (hf it (by simp))
    rw [List.map_cons, runEnc, it.enc_run ρ hfit w hw]
    simp only
    rw [ih hok.2 _ (fun x hx => hf x (by simp [hx])) (w.app _) hw, Writer.app_app, itemsBytes_cons,
      it.bytes_congr hagree]

end SmsVerif
