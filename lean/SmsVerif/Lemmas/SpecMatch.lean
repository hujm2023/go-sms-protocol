/-
  C02 support: the items of a regenerated layout against a document table (`Spec`), and the
  hand-computed length formulas of CMPP 2.0 against the real size of the image.

  * `matchItems` is a syntactic comparison; `matchItems_bytes` shows that matching items and
    document fields contribute the same octets for every PDU value.
  * `lenCheck` linearises the extracted length expression (refusing any sub-expression whose
    fixed-width Go type could wrap on the range of its fields) and compares it, as a linear form
    over the count/length fields, with the size of the items; `lenCheck_sound`.
-/
import SmsVerif.Spec.Wire
import SmsVerif.Lemmas.LayoutRoundTrip

namespace SmsVerif
open Spec

def itemIs (it : Item) (f : SField) : Bool :=
  match it, f.kind, f.rep with
  | .num k g _, .uint n, .asIs => k == n && g == f.go
  | .fixedTrim g k, .octets n, .asIs => k == n && g == f.go
  | .fixedRaw g k, .octets n, .asIs => k == n && g == f.go
  | .fixedHexOut g k, .octets n, .asIs => k == n && g == f.go
  | .hexBoth g k, .octets n, .hexDigits => k == n && g == f.go
  | .cstr g, .cOctets, .asIs => g == f.go
  | .body g l _, .var l', .asIs => g == f.go && l == l'
  | .rep g c k _ _, .list c' n, .asIs => k == n && g == f.go && c == c'
  | .tail g _, .tlvs, .asIs => g == f.go
  | _, _, _ => false

/-- the items, receiver normalisations skipped, are the document fields in document order -/
def matchItems : List Item → List SField → Bool
  | [], [] => true
  | .asg _ _ :: its, fs => matchItems its fs
  | it :: its, f :: fs => itemIs it f && matchItems its fs
  | _, _ => false

theorem repBytes_eq_padAll (n : Nat) (l : List Bytes) : repBytes n l = padAll n l := by
  induction l with
  | nil => rfl
  | cons x xs ih => simp [repBytes, padAll, pad, ih]

theorem itemIs_bytes (it : Item) (f : SField) (h : itemIs it f = true) (r : Rec) :
    it.bytes r = f.bytes r := by
  unfold itemIs at h
  unfold SField.bytes
  split at h <;> simp only [Bool.and_eq_true, beq_iff_eq, Bool.false_eq_true] at h
  all_goals simp only [*, Item.bytes, pad, repBytes_eq_padAll]

theorem matchItems_bytes (its : List Item) (fs : List SField) (h : matchItems its fs = true) (r : Rec) :
    itemsBytes r its = fieldsBytes r fs := by
  fun_induction matchItems its fs with
  | case1 => rfl
  | case2 c as its fs ih => rw [itemsBytes_cons, ih h]; rfl
  | case3 it its f fs _ ih =>
    simp only [Bool.and_eq_true] at h
    rw [itemsBytes_cons, ih h.2, itemIs_bytes _ f h.1 r]
    simp [fieldsBytes]
  | case4 => cases h

abbrev LinForm := Nat × List (String × Nat)

def LinForm.terms (r : Rec) (ts : List (String × Nat)) : Nat := (ts.map fun t => t.2 * r.num t.1).sum
def LinForm.eval (r : Rec) (L : LinForm) : Nat := L.1 + LinForm.terms r L.2
def LinForm.add (a b : LinForm) : LinForm := (a.1 + b.1, a.2 ++ b.2)
def LinForm.scale (n : Nat) (a : LinForm) : LinForm := (n * a.1, a.2.map fun t => (t.1, n * t.2))

theorem LinForm.terms_append (r : Rec) (a b : List (String × Nat)) :
    LinForm.terms r (a ++ b) = LinForm.terms r a + LinForm.terms r b := by
  simp [LinForm.terms, List.sum_append]

theorem LinForm.add_eval (r : Rec) (a b : LinForm) : (a.add b).eval r = a.eval r + b.eval r := by
  simp only [LinForm.eval, LinForm.add, LinForm.terms_append]; omega

theorem LinForm.terms_scale (r : Rec) (n : Nat) (ts : List (String × Nat)) :
    LinForm.terms r (ts.map fun t => (t.1, n * t.2)) = n * LinForm.terms r ts := by
  induction ts with
  | nil => simp [LinForm.terms]
  | cons t ts ih =>
    simp only [LinForm.terms, List.map_cons, List.sum_cons] at ih ⊢
    rw [ih, Nat.mul_add, Nat.mul_assoc]

theorem LinForm.scale_eval (r : Rec) (n : Nat) (a : LinForm) : (a.scale n).eval r = n * a.eval r := by
  simp only [LinForm.eval, LinForm.scale, LinForm.terms_scale, Nat.mul_add]

/-- upper bound of a linear form when every field it mentions has a known bound -/
def termsUpper (B : String → Option Nat) : List (String × Nat) → Option Nat
  | [] => some 0
  | t :: ts => match B t.1, termsUpper B ts with
    | some b, some u => some (t.2 * b + u)
    | _, _ => none

def LinForm.upper (B : String → Option Nat) (L : LinForm) : Option Nat := (termsUpper B L.2).map (L.1 + ·)

def Bounded (B : String → Option Nat) (r : Rec) : Prop := ∀ f b, B f = some b → r.num f ≤ b

theorem termsUpper_sound {B : String → Option Nat} {r : Rec} (hB : Bounded B r)
    (ts : List (String × Nat)) (u : Nat) (h : termsUpper B ts = some u) : LinForm.terms r ts ≤ u := by
  fun_induction termsUpper B ts generalizing u with
  | case1 => cases h; simp [LinForm.terms]
  | case2 t ts b u' hu hb ih =>
    cases h
    have h1 := Nat.mul_le_mul_left t.2 (hB _ _ hb)
    have h2 := ih u' hu
    simp only [LinForm.terms, List.map_cons, List.sum_cons] at h2 ⊢
    omega
  | case3 => cases h

theorem LinForm.upper_sound {B : String → Option Nat} {r : Rec} (hB : Bounded B r) (L : LinForm) (u : Nat)
    (h : L.upper B = some u) : L.eval r ≤ u := by
  simp only [LinForm.upper, Option.map_eq_some_iff] at h
  obtain ⟨u', hu, rfl⟩ := h
  have := termsUpper_sound hB L.2 u' hu
  simp only [LinForm.eval]; omega

/-- linearise a Go length expression; a conversion to a `k`-octet type is accepted only when
    the value provably fits (so it cannot wrap) -/
def lin (B : String → Option Nat) : Expr → Option LinForm
  | .lit n => some (n, [])
  | .fld f => some (0, [(f, 1)])
  | .lenOf _ => none
  | .add a b => match lin B a, lin B b with
    | some x, some y => some (x.add y)
    | _, _ => none
  | .mul a b => match a, b with
    | .lit n, _ => (lin B b).map (LinForm.scale n)
    | _, .lit n => (lin B a).map (LinForm.scale n)
    | _, _ => none
  | .conv k e => match lin B e with
    | some L => match L.upper B with
      | some u => if u < 256 ^ k then some L else none
      | none => none
    | none => none

theorem lin_sound {B : String → Option Nat} {r : Rec} (hB : Bounded B r) (e : Expr) (L : LinForm)
    (h : lin B e = some L) : e.eval r = L.eval r := by
  fun_induction lin B e generalizing L with
  | case1 n => cases h; simp [Expr.eval, LinForm.eval, LinForm.terms]
  | case2 f => cases h; simp [Expr.eval, LinForm.eval, LinForm.terms]
  | case4 a b x y hy hx iha ihb => -- a + b
    cases h; rw [LinForm.add_eval, ← iha x hx, ← ihb y hy]; rfl
  | case6 b n ih => -- literal * b
    obtain ⟨y, hy, rfl⟩ := Option.map_eq_some_iff.1 h
    rw [LinForm.scale_eval, ← ih y hy]; rfl
  | case7 a n _ ih => -- a * literal
    obtain ⟨x, hx, rfl⟩ := Option.map_eq_some_iff.1 h
    rw [LinForm.scale_eval, ← ih x hx, Nat.mul_comm]; rfl
  | case9 k e L' hL u hu hlt ih =>
    -- the conversion is the identity: the value is below the bound `u < 256 ^ k`
    cases h
    have := LinForm.upper_sound hB L' u hu
    rw [Expr.eval, ih L' hL, Nat.mod_eq_of_lt (by omega)]
  | case3 | case5 | case8 | case10 | case11 | case12 => cases h

/-- `none` for a C-string and for the optional parameters: their size is not linear in integer fields -/
def itemSize : Item → Option LinForm
  | .num k _ _ => some (k, [])
  | .cstr _ => none
  | .fixedTrim _ n => some (n, [])
  | .fixedRaw _ n => some (n, [])
  | .fixedHexOut _ n => some (n, [])
  | .hexBoth _ n => some (n, [])
  | .body _ l _ => some (0, [(l, 1)])
  | .rep _ c n _ _ => some (0, [(c, n)])
  | .asg _ _ => some (0, [])
  | .tail _ _ => none

def sizeLin : List Item → Option LinForm
  | [] => some (0, [])
  | it :: rest => match itemSize it, sizeLin rest with
    | some a, some b => some (a.add b)
    | _, _ => none

theorem itemSize_wireLen (it : Item) (r : Rec) (L : LinForm) (h : itemSize it = some L) : L.eval r = it.wireLen r := by
  cases it <;> simp only [itemSize, Option.some.injEq, reduceCtorEq] at h <;> subst h <;>
    simp [Item.wireLen, LinForm.eval, LinForm.terms]

theorem itemSize_sound (it : Item) (r : Rec) (hf : it.Fits r) (L : LinForm) (h : itemSize it = some L) :
    (it.bytes r).length = L.eval r := by
  rw [itemSize_wireLen it r L h]
  exact fits_bytes_length it r hf (by cases it <;> first | rfl | cases h)

theorem sizeLin_sound (its : List Item) (r : Rec) (hf : ∀ it ∈ its, it.Fits r) (L : LinForm)
    (h : sizeLin its = some L) : (itemsBytes r its).length = L.eval r := by
  fun_induction sizeLin its generalizing L with
  | case1 => cases h; rfl
  | case2 it rest a b hb ha ih =>
    cases h
    rw [itemsBytes_cons, List.length_append, LinForm.add_eval, itemSize_sound it r (hf it (by simp)) a ha,
      ih (fun x hx => hf x (by simp [hx])) b hb]
  | case3 => cases h

def itemsBound : List Item → String → Option Nat
  | [], _ => none
  | .num k g _ :: rest, f => if g = f then some (256 ^ k - 1) else itemsBound rest f
  | _ :: rest, f => itemsBound rest f

theorem itemsBound_sound (its : List Item) (r : Rec) (hf : ∀ it ∈ its, it.Fits r) : Bounded (itemsBound its) r := by
  intro f b h
  fun_induction itemsBound its f with
  | case1 => cases h
  | case2 k conv rest f =>
    cases h
    obtain ⟨n, hn, hlt⟩ := hf _ (List.mem_cons_self ..)
    simp only [Rec.num, hn]; omega
  | case3 k g conv rest f _ ih => exact ih (fun x hx => hf x (by simp [hx])) h
  | case4 it rest f _ ih => exact ih (fun x hx => hf x (by simp [hx])) h

def Expr.mentions : Expr → String → Bool
  | .lit _, _ => false
  | .fld g, f => g == f
  | .lenOf g, f => g == f
  | .add a b, f => a.mentions f || b.mentions f
  | .mul a b, f => a.mentions f || b.mentions f
  | .conv _ e, f => e.mentions f

theorem Expr.eval_set (e : Expr) (r : Rec) (f : String) (v : Val) (h : e.mentions f = false) :
    e.eval (r.set f v) = e.eval r := by
  induction e with
  | lit n => rfl
  | fld g =>
    simp only [Expr.mentions, beq_eq_false_iff_ne, ne_eq] at h
    simp only [Expr.eval, Rec.num, Rec.get?_set_ne _ _ _ _ h]
  | lenOf g =>
    simp only [Expr.mentions, beq_eq_false_iff_ne, ne_eq] at h
    simp only [Expr.eval, Rec.get?_set_ne _ _ _ _ h]
  | add a b iha ihb =>
    simp only [Expr.mentions, Bool.or_eq_false_iff] at h
    simp only [Expr.eval, iha h.1, ihb h.2]
  | mul a b iha ihb =>
    simp only [Expr.mentions, Bool.or_eq_false_iff] at h
    simp only [Expr.eval, iha h.1, ihb h.2]
  | conv k e ih => simp only [Expr.mentions] at h; simp only [Expr.eval, ih h]

def isLenAsg (lf : String) : Item → Option Expr
  | .asg none [(f, e)] => if f = lf then some e else none
  | _ => none

theorem isLenAsg_some {lf : String} {it : Item} {e : Expr} (h : isLenAsg lf it = some e) :
    it = .asg none [(lf, e)] := by
  unfold isLenAsg at h
  split at h
  · split at h
    · cases h; subst_vars; rfl
    · cases h
  · cases h

/-- the expression the encoder assigns to the length field, provided no normalisation follows it -/
def lenExpr (lf : String) : List Item → Option Expr
  | [] => none
  | it :: rest =>
    match isLenAsg lf it with
    | some e => if rest.all (fun it => !it.isAsg) = true then some e else lenExpr lf rest
    | none => lenExpr lf rest

theorem norm_noAsg (its : List Item) (r : Rec) (h : its.all (fun it => !it.isAsg) = true) : norm its r = r := by
  induction its generalizing r with
  | nil => rfl
  | cons it rest ih =>
    simp only [List.all_cons, Bool.and_eq_true] at h
    rw [norm_cons, ih _ h.2]
    cases it <;> first | rfl | cases h.1

theorem lenExpr_norm (its : List Item) (lf : String) (e : Expr) (r : Rec) (h : lenExpr lf its = some e) :
    ∃ ρ : Rec, norm its r = ρ.set lf (.num (e.eval ρ)) := by
  fun_induction lenExpr lf its generalizing r with
  | case1 => cases h
  | case2 it rest e' he' hrest =>
    cases h
    obtain rfl := isLenAsg_some he'
    exact ⟨r, by rw [norm_cons, norm_noAsg rest _ hrest]; rfl⟩
  | case3 it rest e' _ _ ih => rw [norm_cons]; exact ih _ h
  | case4 it rest _ ih => rw [norm_cons]; exact ih _ h

def lenCheck (lf : String) (its : List Item) : Bool :=
  match lenExpr lf its, sizeLin its with
  | some e, some Ls =>
    !e.mentions lf &&
    match lin (itemsBound its) e with
    | some Le => Le.1 == Ls.1 && Le.2.isPerm Ls.2
    | none => false
  | _, _ => false

theorem terms_perm (r : Rec) {a b : List (String × Nat)} (h : a.Perm b) : LinForm.terms r a = LinForm.terms r b :=
  (h.map _).sum_nat

/-- For every PDU value whose normal form fits, the length field of the normal
    form is the real number of octets of the image. -/
theorem lenCheck_sound (lf : String) (its : List Item) (h : lenCheck lf its = true) (r : Rec)
    (hf : ∀ it ∈ its, it.Fits (norm its r)) :
    (norm its r).num lf = (itemsBytes (norm its r) its).length := by
  unfold lenCheck at h
  split at h
  · rename_i e Ls he hs
    simp only [Bool.and_eq_true, Bool.not_eq_true'] at h
    obtain ⟨hment, h⟩ := h
    split at h
    · rename_i Le hLe
      simp only [Bool.and_eq_true, beq_iff_eq] at h
      obtain ⟨hc, hp⟩ := h
      obtain ⟨ρ, hρ⟩ := lenExpr_norm its lf e r he
      have hB := itemsBound_sound its _ hf
      have h1 : (norm its r).num lf = e.eval (norm its r) := by
        rw [hρ, Expr.eval_set e ρ lf _ hment]
        simp [Rec.num, Rec.get?_set_self]
      rw [h1, lin_sound hB e Le hLe, sizeLin_sound its _ hf Ls hs]
      simp only [LinForm.eval, hc, terms_perm _ (List.isPerm_iff.1 hp)]
    · simp at h
  · simp at h

end SmsVerif
