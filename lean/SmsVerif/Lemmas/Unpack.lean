/-
  GSM 7-bit unpacking as the library does it (C08, C05; `gsm7encoding.Unpack`: it is not told the
  septet count): on what `Pack` produced it returns the septets again, except in the two situations
  where the packed octets do not determine the count — a message of 8k septets ending in `@`
  (septet 0) whose seventh octet of the last block is zero, and a message of 8k septets ending in a
  real CR.
-/
import SmsVerif.Lemmas.Pack

namespace SmsVerif.Gsm7

theorem unpackSeptet_arith (j prev cur : Nat) (hj : j < 7) :
    unpackSeptet j prev cur = cur % 2 ^ (7 - j) * 2 ^ j + prev / 2 ^ (8 - j) % 2 ^ j := by
  rw [unpackSeptet, Nat.or_comm, Nat.add_comm]
  -- the mask `255 - (2 ^ (8 - j) - 1)` is `2 ^ 8 - 1 - (2 ^ (8 - j) - 1)`
  exact splice 8 (8 - j) j (7 - j) prev cur (by omega) (by omega)

/-- `unpackBlocks` as a stream: `j` is the septet's index in its block, `p` the octet before `c`, whose high
    `j` bits are the septet's low bits (none for the first septet of a block) -/
def unpackFrom : Nat → Nat → Bytes → List Nat
  | _, _, [] => []
  | j, p, c :: rest =>
    unpackSeptet j p c ::
      if j = 6 then (if c > 0 ∨ rest ≠ [] then [(c &&& 0xFE) >>> 1] else []) ++ unpackFrom 0 0 rest
      else unpackFrom (j + 1) c rest

theorem unpackSeptet_zero (p o : Nat) : unpackSeptet 0 p o = o &&& 0x7F := by
  rw [unpackSeptet_arith 0 p o (by omega), Nat.and_two_pow_sub_one_eq_mod o 7]
  simp [Nat.mod_one]

theorem unpackBlocks_eq_unpackFrom (bs : Bytes) : unpackBlocks bs = unpackFrom 0 0 bs := by
  fun_induction unpackBlocks bs <;> simp [unpackFrom, unpackSeptet_zero, *]

theorem unpackFrom_cons (j p c : Nat) (rest : Bytes) (hj : j < 7) :
    unpackFrom j p (c :: rest) = (c % 2 ^ (7 - j) * 2 ^ j + p / 2 ^ (8 - j) % 2 ^ j) ::
      if j = 6 then (if c > 0 ∨ rest ≠ [] then [c / 2 % 128] else []) ++ unpackFrom 0 0 rest
      else unpackFrom (j + 1) c rest := by
  simp only [unpackFrom, unpackSeptet_arith j p c hj, show (c &&& 0xFE) >>> 1 = c / 2 % 128 from keepHigh 8 1 7 c rfl]

/-- **unpacking the packed stream**: the invariant is that the high `j` bits of the previous octet `p` are
    the low `j` bits of the next septet.  The only septet that does not come back is a final `@` in eighth
    position whose octet is zero (`hl`); a stream that ends after a seventh position is the CR case (`h7`). -/
theorem unpackFrom_packFrom (j p : Nat) (s : List Nat) (hj : j < 7) (h : ∀ x ∈ s, x < 128)
    (h7 : (j + s.length) % 8 ≠ 7) (hp : ∀ a ∈ s.head?, p / 2 ^ (8 - j) % 2 ^ j = a % 2 ^ j)
    (hl : ∀ pre a, s = pre ++ [a, 0] → (j + s.length) % 8 = 0 → 64 ≤ a) :
    unpackFrom j p (packFrom j s) = s := by
  fun_induction packFrom j s generalizing p with
  | case1 => rfl
  | case2 j a =>
    rw [packLast_eq, unpackFrom_cons j p _ [] hj, hp a rfl, (packOctet_bits j a 0 hj (h a (by simp))).1,
      Nat.div_add_mod', if_neg (by simp at h7; omega)]
    rfl
  | case3 j a b rest ih0 ih1 =>
    have hb := h b (by simp)
    have hr : ∀ x ∈ rest, x < 128 := fun x hx => h x (by simp [hx])
    obtain ⟨c2, c3⟩ := packOctet_bits j a b hj (h a (by simp))
    rw [unpackFrom_cons j p _ _ hj, hp a rfl, c2, Nat.div_add_mod']
    simp only [List.length_cons] at h7 hl
    split
    · subst j
      rw [ih0 0 (by omega) hr (by omega) (by simp [Nat.mod_one])
          fun pre x e hz => hl (a :: b :: pre) x (by simp [e]) (by omega),
        if_pos, show packOctet 6 a b / 2 % 128 = b by omega]
      · rfl
      -- the octet holds the top bit of `a` and all of `b`: at the end of the stream it is zero only if `b` is
      -- a final `@` after a septet below 64
      · cases rest with
        | cons x xs => exact Or.inr (packFrom_ne_nil 0 _ (by simp))
        | nil =>
          have := hl [] a
          by_cases hb0 : b = 0
          · simp [hb0] at this; omega
          · omega
    · rw [ih1 _ (by omega) (fun x hx => h x (by simp [hx])) (by simp; omega)
        (by simp [show 8 - (j + 1) = 7 - j by omega, c3])
        fun pre x e hz => hl (a :: pre) x (by simp [e]) (by simp at hz; omega)]

/-- the message is a whole number of blocks and its last block ends in septet 0 (`@`) after a septet
    below 64: then the seventh octet of that block is zero and `Unpack`, not knowing the septet
    count, takes it for padding -/
def endsInLostAt : List Nat → Bool
  | _ :: _ :: _ :: _ :: _ :: _ :: s6 :: s7 :: rest =>
    if rest.isEmpty then s7 == 0 && decide (s6 < 64) else endsInLostAt rest
  | _ => false

theorem endsInLostAt_suffix : ∀ (pre : List Nat) (a : Nat), (pre.length + 2) % 8 = 0 → a < 64 →
    endsInLostAt (pre ++ [a, 0]) = true
  | [_, _, _, _, _, _], a, _, ha => by simp [endsInLostAt, ha]
  | _ :: _ :: _ :: _ :: _ :: _ :: _ :: _ :: pre, a, h, ha => by
    simpa [endsInLostAt] using endsInLostAt_suffix pre a (by simp at h; omega) ha
  | [], _, h, _ | [_], _, h, _ | [_, _], _, h, _ | [_, _, _], _, h, _ | [_, _, _, _], _, h, _
  | [_, _, _, _, _], _, h, _ | [_, _, _, _, _, _, _], _, h, _ => by simp at h

/-- **unpackBlocks ∘ packBlocks**: outside the `@` ambiguity, and when the message does not end one
    septet short of a block (that case goes through the CR rule), the septets come back -/
theorem unpackBlocks_packBlocks (s : List Nat) (h : ∀ x ∈ s, x < 128) (h7 : s.length % 8 ≠ 7)
    (hl : ∀ pre a, s = pre ++ [a, 0] → s.length % 8 = 0 → 64 ≤ a) : unpackBlocks (packBlocks s) = s := by
  rw [packBlocks_eq_packFrom, unpackBlocks_eq_unpackFrom]
  exact unpackFrom_packFrom 0 0 s (by omega) h (by simpa using h7) (by simp [Nat.mod_one])
    (by simpa using hl)

theorem unpackGo_packGo (s : List Nat) (h : ∀ x ∈ s, x < 128) (ha : endsInLostAt s = false)
    (hcr : ¬ (s.length % 8 = 0 ∧ s.getLast? = some 0x0D)) : unpackGo (packGo s) = s := by
  unfold unpackGo
  by_cases hn : s.length % 8 = 7
  · -- the filler is unpacked as an eighth septet and recognised as CR
    rw [packGo_eq s, if_pos hn, unpackBlocks_packBlocks (s ++ [0x0D])
      (by simpa [or_imp, forall_and] using h) (by simp; omega)
      (fun pre a e => by have := congrArg List.getLast? e; simp at this)]
    simp; omega
  · rw [packGo_eq s, if_neg hn, unpackBlocks_packBlocks s h hn fun pre a e hz => Nat.le_of_not_lt fun hlt => by
      rw [e, endsInLostAt_suffix pre a (by simpa [e] using hz) hlt] at ha; cases ha]
    exact if_neg hcr

end SmsVerif.Gsm7
