/-
  Zero-padded decimal fields (`decDigits`, `parseDec`) and strings that are a sequence of
  fixed-width fields: what the timestamp (C15), the message id string (C17) and the SMPP time
  formats (C19) have in common.
-/
import SmsVerif.Model.Auth

namespace SmsVerif

theorem decDigits_length (n t : Nat) : (decDigits n t).length = n := by
  induction n generalizing t with
  | zero => rfl
  | succ n ih => simp [decDigits, ih]

theorem decDigits_digit {n t b : Nat} (hb : b ∈ decDigits n t) : 48 ≤ b ∧ b ≤ 57 := by
  induction n generalizing t with
  | zero => cases hb
  | succ n ih =>
    rcases List.mem_append.1 hb with hb | hb
    · exact ih hb
    · have := List.mem_singleton.1 hb; omega

theorem parseDec_append_digit (bs : Bytes) (d : Nat) :
    parseDec (bs ++ [48 + d]) = parseDec bs * 10 + d := by
  simp [parseDec, List.foldl_append]

theorem parseDec_decDigits (n t : Nat) (h : t < 10 ^ n) : parseDec (decDigits n t) = t := by
  induction n generalizing t with
  | zero => simp at h; subst h; rfl
  | succ n ih =>
    simp only [decDigits, parseDec_append_digit]
    rw [ih (t / 10) (by rw [Nat.pow_succ] at h; omega)]
    omega

/-- Behind a first field `a` of width `n`, offset `k + n` is offset `k` of the rest.  Rewriting
    with this from the left end of `f₁ ++ (f₂ ++ …)` turns `(s.drop o).take w` into the field
    that starts at `o` (`simp only` matches the literal `o` against `k + n`). -/
theorem drop_add_append {a : Bytes} {n : Nat} (h : a.length = n) (r : Bytes) (k : Nat) :
    (a ++ r).drop (k + n) = r.drop k := by
  subst h; rw [Nat.add_comm]; exact List.drop_length_add_append k

end SmsVerif
