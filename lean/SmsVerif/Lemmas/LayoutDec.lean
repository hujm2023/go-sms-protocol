/-
  Soundness of the layout checkers, decoder side (C01): fed the items' octets, the decoder's statements
  record no error and leave the PDU `applyExpect r its ρ`, each item's field set to what the item
  expects of the encoded value `r`.
-/
import SmsVerif.Lemmas.LayoutEnc
import SmsVerif.Lemmas.OptParams

namespace SmsVerif

theorem readRep_ok (n : Nat) (l : List Bytes) (h : ∀ s ∈ l, hasNul s = false ∧ s.length ≤ n)
    (rest : Bytes) (a : Nat) (acc : List Bytes) :
    ∃ a', readRep ⟨repBytes n l ++ rest, none, a⟩ n l.length acc = (acc.reverse ++ l, ⟨rest, none, a'⟩) := by
  induction l generalizing a acc with
  | nil => exact ⟨a, by simp [readRep, repBytes]⟩
  | cons x xs ih =>
    obtain ⟨hx1, hx2⟩ := h x (by simp)
    obtain ⟨a2, h2⟩ := ih (fun s hs => h s (by simp [hs])) (a + n) (x :: acc)
    refine ⟨a2, ?_⟩
    simp only [List.length_cons, readRep, repBytes, List.append_assoc, readCStringN_fixed hx1 hx2, h2,
      List.reverse_cons, List.singleton_append]

/-- the PDU value after the decoder has assigned every item's field, in order -/
def applyExpect (r : Rec) : List Item → Rec → Rec
  | [], ρ => ρ
  | it :: rest, ρ => applyExpect r rest (match it.expect r with | some fv => ρ.set fv.1 fv.2 | none => ρ)

theorem applyExpect_cons (r : Rec) (it : Item) (its : List Item) (ρ : Rec) :
    applyExpect r (it :: its) ρ = applyExpect r its (applyExpect r [it] ρ) := rfl

theorem Item.expect_untouched (it : Item) (r ρ : Rec) {g : String} (h : g ∉ it.sets) :
    (applyExpect r [it] ρ).get? g = ρ.get? g := by
  cases it <;> simp only [applyExpect, Item.expect]
  all_goals exact Rec.get?_set_ne _ _ _ _ (by simpa [Item.sets, Item.mentions] using h)

theorem Item.expect_exact (it : Item) (r ρ : Rec) (hx : it.exact = true) (hf : it.Fits r) {g : String}
    (h : g ∈ it.sets) : (applyExpect r [it] ρ).get? g = r.get? g := by
  cases it <;> simp only [Item.sets, Item.mentions, List.take_succ_cons, List.take_zero, List.mem_singleton,
    List.not_mem_nil] at h <;> subst h <;> simp only [applyExpect, Item.expect, Rec.get?_set_self]
  case fixedHexOut => cases hx
  all_goals
    obtain ⟨x, hx, _⟩ := hf
    simp [Rec.num, Rec.str, Rec.strs, Rec.tlvs, hx]

theorem applyExpect_get? (r : Rec) (its : List Item) (ρ : Rec) (hx : ∀ it ∈ its, it.exact = true)
    (hf : ∀ it ∈ its, it.Fits r) (g : String) :
    (applyExpect r its ρ).get? g = if g ∈ allSets its then r.get? g else ρ.get? g := by
  induction its generalizing ρ with
  | nil => rfl
  | cons it rest ih =>
    rw [applyExpect_cons, ih _ (fun x h => hx x (.tail _ h)) (fun x h => hf x (.tail _ h))]
    simp only [allSets, List.flatMap_cons, List.mem_append]
    by_cases hit : g ∈ it.sets
    · simp [hit, it.expect_exact r ρ (hx it (.head _)) (hf it (.head _)) hit]
    · simp [hit, it.expect_untouched r ρ hit]

theorem filterMap_cons_toList {α β : Type} (f : α → Option β) (a : α) (l : List α) :
    (a :: l).filterMap f = (f a).toList ++ l.filterMap f := by
  cases h : f a <;> simp [h]

/-- The decoder statement of an item (none, for a normalisation), fed the octets of a fitting value
    followed by `rest`: it records no error, assigns the item's field and — unless it is the
    optional-parameter tail, which takes all there is — leaves exactly `rest`. -/
theorem Item.dec_run (it : Item) (r : Rec) (hf : it.Fits r) (ρ : Rec)
    (hdeps : ∀ g ∈ it.deps, ρ.get? g = r.get? g) (hnil : ∀ g ∈ it.appends, ρ.strs g = [])
    (rest : Bytes) (hrest : it.isTail = true → rest = []) (a : Nat) (pe : Bool) :
    ∃ rest' a', (it.isTail = false → rest' = rest) ∧
      ∀ ds, runDec (it.decOp?.toList ++ ds) ⟨ρ, ⟨it.bytes r ++ rest, none, a⟩, pe⟩
        = runDec ds ⟨applyExpect r [it] ρ, ⟨rest', none, a'⟩, pe⟩ := by
  cases it <;> simp only [Item.decOp?, Option.toList, List.cons_append, List.nil_append, Item.bytes, applyExpect,
    Item.expect]
  case num k f conv =>
    obtain ⟨n, hn, hlt⟩ := hf
    exact ⟨rest, a, fun _ => rfl, fun ds => by
      simp [runDec, DecOp.run, Rec.num, hn, readNum_append k n rest a hlt]⟩
  case cstr f =>
    obtain ⟨s, hs, hn⟩ := hf
    exact ⟨rest, a, fun _ => rfl, fun ds => by
      simp [runDec, DecOp.run, Rec.str, hs, readCString_append s rest a hn]⟩
  case fixedTrim f n =>
    obtain ⟨s, hs, hn, hl⟩ := hf
    exact ⟨rest, a + n, fun _ => rfl, fun ds => by
      simp [runDec, DecOp.run, Rec.str, hs, readCStringN_fixed hn hl]⟩
  case fixedRaw f n | fixedHexOut f n =>
    obtain ⟨s, hs, rfl⟩ := hf
    exact ⟨rest, a + s.length, fun _ => rfl, fun ds => by
      simp [runDec, DecOp.run, Rec.str, hs, zeros, readCStringNRaw_append s rest a]⟩
  case hexBoth f n =>
    obtain ⟨b, hs, rfl, hb⟩ := hf
    exact ⟨rest, a + b.length, fun _ => rfl, fun ds => by
      simp [runDec, DecOp.run, Rec.str, hs, zeros, hexDecode_hexEncode b hb, readCStringNRaw_append b rest a]⟩
  case body f l dyn =>
    obtain ⟨s, hs, hl⟩ := hf
    have hnum : ρ.num l = s.length := by simp [Rec.num, hdeps l (by simp [Item.deps]), hl]
    exact ⟨rest, a + s.length, fun _ => rfl, fun ds => by
      simp [runDec, DecOp.run, Rec.str, hs, Expr.eval, hnum, Reader.readNBytes, readCStringNRaw_append s rest a]⟩
  case rep f c n counted app =>
    obtain ⟨l, hs, hc, hall⟩ := hf
    have hnum : ρ.num c = l.length := by simp [Rec.num, hdeps c (by simp [Item.deps]), hc]
    have hstr : r.strs f = l := by simp [Rec.strs, hs]
    cases app
    · obtain ⟨a', h⟩ := readRep_ok n l hall rest (a + l.length) []
      exact ⟨rest, a', fun _ => rfl, fun ds => by simp [runDec, DecOp.run, hstr, Expr.eval, hnum, h]⟩
    · obtain ⟨a', h⟩ := readRep_ok n l hall rest a []
      have hn : ρ.strs f = [] := hnil f (by simp [Item.appends])
      exact ⟨rest, a', fun _ => rfl, fun ds => by
        simp [runDec, DecOp.run, hstr, Expr.eval, hnum, h, hn]⟩
  case asg c as => exact ⟨rest, a, fun _ => rfl, fun ds => rfl⟩
  case tail f parse =>
    obtain ⟨l, hl, hn, hb⟩ := hf
    obtain rfl := hrest rfl
    cases parse
    · obtain ⟨h1, h2⟩ := readTlvs_ser l a hn hb
      rcases hrd : (readTlvs ⟨tlvsBytes l, none, a⟩).rd with ⟨rest', _, a'⟩
      obtain rfl : _ = none := hrd ▸ h2
      exact ⟨rest', a', nofun, fun ds => by simp [runDec, DecOp.run, Rec.tlvs, hl, h1, hrd]⟩
    · exact ⟨tlvsBytes l, a, nofun, fun ds => by
        simp [runDec, DecOp.run, Rec.tlvs, hl, Reader.bytes, parseOptions_ser l hn hb]⟩

theorem tailLast_cons {it : Item} {its : List Item} (h : tailLast (it :: its) = true) :
    (it.isTail = true → its = []) ∧ tailLast its = true := by
  cases its with
  | nil => simp [tailLast]
  | cons x xs =>
    simp only [tailLast, Bool.and_eq_true, Bool.not_eq_true'] at h
    exact ⟨fun ht => by simp [ht] at h, h.2⟩

/-- Fed the items' octets (followed by anything when there is no optional tail), the aligned decoder
    statements record no error and assign each item's field its expected value.  The invariant of
    `decOK`: the fields in `seen` already hold the encoded value in the PDU `ρ` decoded so far, and
    outside `touched` `ρ` is still the PDU `ρ0` the decoder started from, whose lists are empty. -/
theorem runDec_items (es : List EncOp) (ds : List DecOp) (its : List Item)
    (hp : pairOps es ds = some its) (htl : tailLast its = true)
    (r : Rec) (hf : ∀ it ∈ its, it.Fits r)
    (seen touched : List String) (hok : decOK seen touched its = true)
    (ρ0 ρ : Rec) (h0 : ∀ g, ρ0.strs g = [])
    (hseen : ∀ g ∈ seen, ρ.get? g = r.get? g) (htouched : ∀ g, g ∉ touched → ρ.get? g = ρ0.get? g)
    (rest : Bytes) (hrest : its.any Item.isTail = true → rest = []) (a : Nat) (pe : Bool) :
    ∃ rd', rd'.err = none ∧ runDec ds ⟨ρ, ⟨itemsBytes r its ++ rest, none, a⟩, pe⟩
      = .ok ⟨applyExpect r its ρ, rd', pe⟩ := by
  obtain rfl := (pairOps_some hp).2
  clear hp
  induction its generalizing seen touched ρ a with
  | nil => exact ⟨⟨rest, none, a⟩, rfl, by simp [runDec, applyExpect, itemsBytes]⟩
  | cons it its ih =>
    simp only [decOK, Bool.and_eq_true, List.all_eq_true] at hok
    obtain ⟨⟨hdeps, happ⟩, hok'⟩ := hok
    have hfit := hf it (by simp)
    obtain ⟨htl1, htl'⟩ := tailLast_cons htl
    obtain ⟨rest1, a1, hrd1, hrun⟩ := it.dec_run r hfit ρ (fun g hg => hseen g (by simpa using hdeps g hg))
      (fun g hg => by rw [strs_congr (htouched g (by simpa using happ g hg))]; exact h0 g)
      (itemsBytes r its ++ rest) (fun ht => by simp [htl1 ht, itemsBytes, hrest (by simp [ht])]) a pe
    rw [filterMap_cons_toList, itemsBytes_cons, List.append_assoc, hrun, applyExpect_cons]
    by_cases htail : it.isTail = true
    · -- the tail is the last item
      obtain rfl := htl1 htail
      exact ⟨_, rfl, rfl⟩
    · obtain rfl := hrd1 (by simpa using htail)
      refine ih htl' (fun x h => hf x (by simp [h])) _ _ hok' (applyExpect r [it] ρ) (fun g hg => ?_)
        (fun g hg => ?_) (fun h => hrest (by simp [h])) a1
      · -- `seen`: fields that hold the encoded value
        by_cases hgs : g ∈ it.sets
        · by_cases hx : it.exact = true
          · exact it.expect_exact r ρ hx hfit hgs
          · simp [hx, hgs] at hg
        · rw [it.expect_untouched r ρ hgs]
          refine hseen g ?_
          split at hg
          · exact (List.mem_append.1 hg).resolve_left hgs
          · exact (List.mem_filter.1 hg).1
      · -- outside `touched` the PDU is still as it was created
        simp only [List.mem_append, not_or] at hg
        rw [it.expect_untouched r ρ hg.1, htouched g hg.2]

end SmsVerif
