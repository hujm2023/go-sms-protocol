/-
  Delivery receipts as texts `key:value key:value …`: every occurrence of a key token `key:` in such
  a text is the beginning of a field with that key — provided the key set has no key that is a
  proper suffix of another or ends in a space followed by another key, and no value contains a key
  token (`occ_is_field`).  For such receipts this discharges the "first occurrence is the field
  occurrence" hypothesis of the `…_partial` theorems of C18 (`field_at`, `indexOf_absent`).
-/
import SmsVerif.Model.Receipt

namespace SmsVerif.Receipt

def OccursAt (s pat : Bytes) (i : Nat) : Prop := pat <+: s.drop i

theorem isPrefixOf_iff : ∀ (a b : Bytes), isPrefixOf a b = true ↔ a <+: b
  | [], b => by simp [isPrefixOf]
  | _ :: _, [] => by simp [isPrefixOf]
  | x :: xs, y :: ys => by
    simp only [isPrefixOf, Bool.and_eq_true, beq_iff_eq, isPrefixOf_iff xs ys]
    constructor
    · rintro ⟨rfl, h⟩; exact List.cons_prefix_cons.2 ⟨rfl, h⟩
    · intro h; exact List.cons_prefix_cons.1 h

theorem occursAt_zero (s pat : Bytes) : OccursAt s pat 0 ↔ pat <+: s := by simp [OccursAt]

theorem occursAt_succ (c : Nat) (cs pat : Bytes) (i : Nat) : OccursAt (c :: cs) pat (i + 1) ↔ OccursAt cs pat i := by
  simp [OccursAt]

theorem indexOf_first : ∀ (s pat : Bytes) (n : Nat), OccursAt s pat n → n ≤ s.length →
    (∀ i, i < n → ¬ OccursAt s pat i) → indexOf s pat = some n
  | [], pat, n, h, hn, _ => by
    have : n = 0 := by simpa using hn
    subst this
    have hp : pat = [] := by simpa [OccursAt] using h
    subst hp; simp [indexOf]
  | c :: cs, pat, n, h, hn, hfirst => by
    unfold indexOf
    cases n with
    | zero =>
      have : isPrefixOf pat (c :: cs) = true := (isPrefixOf_iff _ _).2 (by simpa [OccursAt] using h)
      simp [this]
    | succ n =>
      have h0 : ¬ isPrefixOf pat (c :: cs) = true := fun hc =>
        hfirst 0 (by omega) ((occursAt_zero _ _).2 ((isPrefixOf_iff _ _).1 hc))
      simp only [h0, Bool.false_eq_true, if_false]
      rw [indexOf_first cs pat n ((occursAt_succ c cs pat n).1 h) (by simpa using hn)
        (fun i hi hc => hfirst (i + 1) (by omega) ((occursAt_succ c cs pat i).2 hc))]
      rfl

theorem indexOf_none : ∀ (s pat : Bytes), (∀ i, i ≤ s.length → ¬ OccursAt s pat i) → indexOf s pat = none
  | [], pat, h => by
    unfold indexOf
    have : pat ≠ [] := fun e => h 0 (by simp) (by simp [OccursAt, e])
    cases pat <;> simp_all
  | c :: cs, pat, h => by
    unfold indexOf
    have h0 : ¬ isPrefixOf pat (c :: cs) = true := fun hc =>
      h 0 (by simp) ((occursAt_zero _ _).2 ((isPrefixOf_iff _ _).1 hc))
    simp only [h0, Bool.false_eq_true, if_false]
    rw [indexOf_none cs pat (fun i hi hc => h (i + 1) (by simpa using hi) ((occursAt_succ c cs pat i).2 hc))]
    rfl

theorem occursAt_append_right (x y pat : Bytes) (i : Nat) (hi : x.length ≤ i) :
    OccursAt (x ++ y) pat i ↔ OccursAt y pat (i - x.length) := by
  simp only [OccursAt]
  rw [List.drop_append, List.drop_eq_nil_of_le hi, List.nil_append]

theorem occursAt_append_left (x y pat : Bytes) (i : Nat) (hi : i ≤ x.length) :
    OccursAt (x ++ y) pat i ↔ pat <+: x.drop i ++ y := by
  simp only [OccursAt]
  rw [List.drop_append_of_le_length hi]

theorem occursAt_iff {s pat : Bytes} {i : Nat} (hp : pat ≠ []) :
    OccursAt s pat i ↔ ∃ pre post, s = pre ++ (pat ++ post) ∧ pre.length = i := by
  constructor
  · rintro ⟨t, ht⟩
    have hl := congrArg List.length ht
    have := List.length_pos_iff.2 hp
    exact ⟨s.take i, t, by rw [ht, List.take_append_drop], by simp at hl ⊢; omega⟩
  · rintro ⟨pre, post, rfl, rfl⟩
    simp [OccursAt]

theorem append_cons_cases {α} {c : α} {l r x y : List α} (h : l ++ c :: r = x ++ y) :
    (∃ t, x = l ++ c :: t ∧ r = t ++ y) ∨ ∃ t, y = t ++ c :: r ∧ l = x ++ t := by
  rcases List.append_eq_append_iff.1 h with ⟨a, hx, ha⟩ | ⟨a, hl, hy⟩
  · cases a with
    | nil => exact Or.inr ⟨[], by simpa using ha.symm, by simpa using hx.symm⟩
    | cons d a =>
      obtain ⟨rfl, rfl⟩ := List.cons.inj ha
      exact Or.inl ⟨a, hx, rfl⟩
  · exact Or.inr ⟨a, hy, hl⟩

/-- a key token in `a ++ ':' :: b` lies in `a`, ends at this colon, or lies in `b`: it cannot straddle
    a colon, which is what makes cutting a receipt at its field colons the right case analysis -/
theorem token_cases {k : Bytes} (hk : 58 ∉ k) {pre post a b : Bytes} (h : pre ++ (k ++ 58 :: post) = a ++ 58 :: b) :
    (∃ t, a = pre ++ (k ++ 58 :: t)) ∨ a = pre ++ k ∨ ∃ t, pre = a ++ 58 :: t ∧ b = t ++ (k ++ 58 :: post) := by
  rcases append_cons_cases (l := pre ++ k) (by simpa using h) with ⟨t, ha, _⟩ | ⟨t, hb, hpk⟩
  · exact Or.inl ⟨t, by simpa using ha⟩
  · cases t with
    | nil => exact Or.inr (Or.inl (by simpa using hpk.symm))
    | cons d t =>
      obtain ⟨rfl, rfl⟩ := List.cons.inj hb
      rcases append_cons_cases hpk.symm with ⟨s, hpre, rfl⟩ | ⟨s, rfl, _⟩
      · exact Or.inr (Or.inr ⟨s, hpre, by simp⟩)
      · simp at hk

/-- `key:value` fields joined by single spaces -/
def render : List (Bytes × Bytes) → Bytes
  | [] => []
  | [(k, v)] => k ++ [58] ++ v
  | (k, v) :: f :: fs => k ++ [58] ++ v ++ [32] ++ render (f :: fs)

/-- offset of field `j` in the rendered text -/
def offsetOf : List (Bytes × Bytes) → Nat → Nat
  | [], _ => 0
  | _ :: _, 0 => 0
  | (k, v) :: fs, j + 1 => k.length + 1 + v.length + 1 + offsetOf fs j

/-- the key universe: no colons, no key a proper suffix of another, no key ending in a space
    followed by another key -/
structure KeysOK (K : List Bytes) : Prop where
  noColon : ∀ k ∈ K, 58 ∉ k
  nonempty : ∀ k ∈ K, k ≠ []
  suffixEq : ∀ k ∈ K, ∀ k' ∈ K, k <:+ k' → k = k'
  noSpaceKey : ∀ k ∈ K, ∀ k' ∈ K, ¬ (32 :: k') <:+ k

theorem KeysOK.mono {K K' : List Bytes} (h : KeysOK K') (hs : ∀ k ∈ K, k ∈ K') : KeysOK K :=
  ⟨fun k hk => h.noColon k (hs k hk), fun k hk => h.nonempty k (hs k hk),
   fun k hk k' hk' => h.suffixEq k (hs k hk) k' (hs k' hk'), fun k hk k' hk' => h.noSpaceKey k (hs k hk) k' (hs k' hk')⟩

/-- a value contains no key token -/
def NoToken (K : List Bytes) (v : Bytes) : Prop := ∀ k ∈ K, ∀ i, ¬ OccursAt v (k ++ [58]) i

def TokenFree (K : List Bytes) (v : Bytes) : Prop := 32 ∉ v ∧ NoToken K v

/-- the fields after the first, each led by its separator -/
def spaced : List (Bytes × Bytes) → Bytes
  | [] => []
  | f :: fs => 32 :: f.1 ++ 58 :: f.2 ++ spaced fs

theorem render_cons : ∀ (f : Bytes × Bytes) (fs : List (Bytes × Bytes)), render (f :: fs) = f.1 ++ 58 :: f.2 ++ spaced fs
  | (_, _), [] => by simp [render, spaced]
  | (_, _), g :: fs => by simp [render, spaced, render_cons g fs]

/-- `occ_is_field` for a token-free value followed by fields, each led by its space; the text is cut
    at the colon of the first field -/
theorem token_in_spaced (K : List Bytes) (hK : KeysOK K) (k : Bytes) (hk : k ∈ K) : ∀ (fs : List (Bytes × Bytes)),
    (∀ f ∈ fs, f.1 ∈ K ∧ NoToken K f.2) → ∀ v, NoToken K v → ∀ pre post, v ++ spaced fs = pre ++ (k ++ 58 :: post) →
    ∃ j, j < fs.length ∧ (fs[j]?.map (·.1)) = some k ∧ v.length + 1 + offsetOf fs j = pre.length
  | [], _, v, hv, pre, post, h =>
    absurd ((occursAt_iff (by simp)).2 ⟨pre, post, by simpa [spaced] using h, rfl⟩) (hv k hk _)
  | f :: fs, hf, v, hv, pre, post, h => by
    obtain ⟨hf1, hf2⟩ := hf f (by simp)
    rcases token_cases (hK.noColon k hk) (a := v ++ 32 :: f.1) (b := f.2 ++ spaced fs) (h.symm.trans (by simp [spaced]))
      with ⟨t, e⟩ | e | ⟨t, rfl, e⟩
    · -- before that colon: the token's own colon would be in `v` or in ` f.1`
      rcases append_cons_cases (l := pre ++ k) (by simpa using e.symm) with ⟨s, hs, _⟩ | ⟨s, hs, _⟩
      · exact absurd ((occursAt_iff (by simp)).2 ⟨pre, s, by simpa using hs, rfl⟩) (hv k hk _)
      · exact absurd (show 58 ∈ 32 :: f.1 by simp [hs]) (by simp [hK.noColon _ hf1])
    · -- ending at it: `k` is a suffix of `v ++ ' ' :: f.1` and ` f.1` is none of `k`, so `k` is a suffix of `f.1`
      have hn := hK.noSpaceKey k hk f.1 hf1
      have hs := (List.suffix_or_suffix_of_suffix ⟨pre, e.symm⟩ (List.suffix_append v (32 :: f.1))).resolve_right hn
      obtain rfl := hK.suffixEq k hk f.1 hf1
        ((List.suffix_cons_iff.1 hs).resolve_left fun ek => hn (ek ▸ List.suffix_refl _))
      have := congrArg List.length e
      exact ⟨0, by simp, by simp, by simp at this; simp [offsetOf]; omega⟩
    · obtain ⟨j, hj, hkey, hoff⟩ := token_in_spaced K hK k hk fs (fun x hx => hf x (by simp [hx])) f.2 hf2 t post e
      exact ⟨j + 1, by simpa using hj, by simpa using hkey, by simp [offsetOf]; omega⟩

/-- **every occurrence of a key token is a field**: in a well-formed receipt a token `k:` (k a key)
    occurs only at the beginning of a field whose key is `k` -/
theorem occ_is_field (K : List Bytes) (hK : KeysOK K) : ∀ (fs : List (Bytes × Bytes)),
    (∀ f ∈ fs, f.1 ∈ K ∧ NoToken K f.2) → ∀ k ∈ K, ∀ i, OccursAt (render fs) (k ++ [58]) i →
    ∃ j, j < fs.length ∧ (fs[j]?.map (·.1)) = some k ∧ offsetOf fs j = i
  | [], _, k, _, i, h => by
    simp [render, OccursAt] at h
  | f :: fs, hf, k, hk, i, h => by
    obtain ⟨pre, post, e, rfl⟩ := (occursAt_iff (by simp)).1 h
    obtain ⟨j, hj, hkey, hoff⟩ := token_in_spaced K hK k hk (f :: fs) hf [] (fun _ _ _ h => by simp [OccursAt] at h)
      (32 :: pre) post (by simpa [spaced, render_cons] using e)
    exact ⟨j, hj, hkey, by simp at hoff; omega⟩

theorem render_split : ∀ (fs : List (Bytes × Bytes)) (j : Nat) (hj : j < fs.length),
    ∃ pre post, render fs = pre ++ fs[j].1 ++ [58] ++ fs[j].2 ++ post ∧ pre.length = offsetOf fs j ∧
      (post = [] ∨ post.head? = some 32)
  | f :: fs, 0, _ => ⟨[], spaced fs, by simp [render_cons], rfl, by cases fs <;> simp [spaced]⟩
  | f :: g :: fs, j + 1, hj => by
    obtain ⟨pre, post, h1, h2, h3⟩ := render_split (g :: fs) j (by simpa using hj)
    exact ⟨f.1 ++ 58 :: f.2 ++ 32 :: pre, post, by simp [render, h1], by simp [offsetOf, h2]; omega, h3⟩

theorem indexOf_absent (K : List Bytes) (hK : KeysOK K) (fs : List (Bytes × Bytes))
    (hf : ∀ f ∈ fs, f.1 ∈ K ∧ NoToken K f.2) (k : Bytes) (hk : k ∈ K) (habs : k ∉ fs.map (·.1)) :
    indexOf (render fs) (k ++ [58]) = none := by
  apply indexOf_none
  intro i _ hocc
  obtain ⟨j, _, hkey, _⟩ := occ_is_field K hK fs hf k hk i hocc
  exact habs (List.mem_of_getElem? (by simpa using hkey))

theorem field_at (K : List Bytes) (hK : KeysOK K) (fs : List (Bytes × Bytes))
    (hf : ∀ f ∈ fs, f.1 ∈ K ∧ NoToken K f.2) (hnd : (fs.map (·.1)).Nodup) (j : Nat) (hj : j < fs.length) :
    ∃ pre post, render fs = pre ++ fs[j].1 ++ [58] ++ fs[j].2 ++ post ∧ (post = [] ∨ post.head? = some 32) ∧
      indexOf (render fs) (fs[j].1 ++ [58]) = some pre.length := by
  obtain ⟨pre, post, hsplit, hpre, hpost⟩ := render_split fs j hj
  refine ⟨pre, post, hsplit, hpost, indexOf_first _ _ _
    ((occursAt_iff (by simp)).2 ⟨pre, fs[j].2 ++ post, by simp [hsplit], rfl⟩) (by simp [hsplit]) ?_⟩
  intro i hi hocc
  obtain ⟨j', hj', hkey, hoff⟩ := occ_is_field K hK fs hf fs[j].1 (hf _ (List.getElem_mem hj)).1 i hocc
  -- distinct keys: j' = j
  have e : (fs.map (·.1))[j']'(by simpa using hj') = (fs.map (·.1))[j]'(by simpa using hj) := by
    simpa [List.getElem?_eq_getElem hj'] using hkey
  rw [(List.getElem_inj hnd).1 e] at hoff
  omega

theorem untilSpace_append (v rest : Bytes) (hv : ∀ c ∈ v, c ≠ 32) (hr : rest = [] ∨ rest.head? = some 32) :
    untilSpace (v ++ rest) = v := by
  induction v with
  | nil =>
    cases rest with
    | nil => rfl
    | cons c cs => simp [untilSpace, show c = 32 by simpa using hr]
  | cons c cs ih =>
    simp only [List.cons_append, untilSpace, hv c (by simp), if_false]
    rw [ih (fun x hx => hv x (by simp [hx]))]

end SmsVerif.Receipt
